import AvroProofs.Lemmas.Varint
import AvroProofs.Lemmas.Datum
import AvroProofs.Lemmas.DecodeConforms
import AvroProofs.Lemmas.Container
import AvroProofs.Lemmas.Rabin
import AvroProofs.Lemmas.SpecVarint
import AvroProofs.Lemmas.SpecDecode
import AvroProofs.Lemmas.SpecEncode
import AvroProofs.Lemmas.Prim
import AvroProofs.C01
import AvroProofs.C06
import AvroProofs.C05
import AvroProofs.C13
import AvroProofs.C03
import AvroProofs.C14
import AvroProofs.C18
import AvroProofs.C19
import AvroProofs.C02
import AvroProofs.C04
import AvroProofs.C15
import AvroProofs.C07
import AvroProofs.C08
import AvroProofs.C09
import AvroProofs.C10
import AvroProofs.C11
import AvroProofs.C12
import AvroProofs.C16
import AvroProofs.Lemmas.DeriveWf
import AvroProofs.Lemmas.SerStep
import AvroProofs.Lemmas.RecordOrder
import AvroProofs.Lemmas.SerSpec
import AvroProofs.C17
import AvroProofs.C20
import AvroProofs.C16Datum
