import AvroProofs.Lemmas.Datum
import AvroProofs.Lemmas.RecordOrder
import AvroProofs.Lemmas.SerStep
/-!
# C16 — the serde path

Theorems about the model of the schema-aware serializer (`serS`) for the fragment it covers.
* `count_eq_length`: the number the serializer returns is the number of bytes it emitted.
* `direct_layout` / `buffered_layout`: for EVERY target block size an array or map is written as a
  sequence of blocks (one counted block, or non-empty sized blocks: `Laid`) that carries exactly the
  items' encodings, in order, followed by the end marker - the partition into blocks is the only thing
  the setting changes (`blockSer_layout` puts the two together for `blockSer`, the function `serS` calls).  That every such
  sequence is a legal one is part of `ser_is_spec_datum`.
* `record_in_schema_order`: whatever order a `Serialize` impl hands a struct's fields over in (serde's derive does so
  in declaration order, a map-style impl in any order), whichever it skips and whichever it never mentions, the bytes
  written are the fields' bytes in SCHEMA order, each being the bytes of the value given under that field's name or alias,
  or of the field's default - the out-of-order cache never drops, duplicates or misplaces a field.
`AvroProofs/C16Datum.lean` builds on these: the bytes are a specification-legal datum (`ser_is_spec_datum`) that the
generic decoder reads back as exactly one datum (`ser_decodes_as_one_datum`).  That the value read back is the one the
Rust value converts to, and the schema-aware deserializer, are decided by the correspondence run and the oracle.

All of these speak of successful runs only; what a successful step of `serS` did is read off `serS_ok`
(`Lemmas/SerStep.lean`).
-/

namespace Avro.C16

/-- "the returned count is the length of the bytes" for one call -/
def Counted (r : SerOut) : Prop := ∀ b n, r = .ok (b, n) → n = b.length

theorem counted_error (e : Err) : Counted (.error e) := by intro b n h; cases h
theorem counted_ok {b : Bytes} {n : Nat} (h : n = b.length) : Counted (.ok (b, n)) := by
  intro b' n' e; cases e; exact h

theorem withLen_counted (b : Bytes) : (withLen b).2 = (withLen b).1.length := by simp [withLen]
theorem varint_counted (n : Int) : (varint n).2 = (varint n).1.length := rfl

theorem direct_counted {ser : SerdeVal → SerOut} {keyed : Bool} {serKey : SerdeVal → SerOut} (len : Nat)
    (hs : ∀ v, Counted (ser v)) (hk : ∀ k, Counted (serKey k))
    (es : List (SerdeVal × SerdeVal)) (out : Bytes) (cnt : Nat) (h : cnt = out.length) :
    Counted (directBlocks ser keyed serKey len es out cnt) := by
  fun_induction directBlocks ser keyed serKey len es out cnt with
  | case1 => exact counted_ok (by simp [h])
  | case2 | case3 => exact counted_error _
  | case4 k v _ out cnt kb kn hkb vb vn hvb ih =>
    have : kn = kb.length := by
      split at hkb
      · exact hk k kb kn hkb
      · cases hkb; rfl
    have := hs v vb vn hvb
    exact ih (by simp; omega)

theorem writeBlock_counted {items : Nat} {buffer out out' : Bytes} {cnt cnt' : Nat} (h : cnt = out.length)
    (hw : writeBlock items buffer out cnt = (out', cnt')) : cnt' = out'.length := by
  cases hw; simp [h]; omega

theorem buffered_counted (ser : SerdeVal → SerOut) (keyed : Bool) (serKey : SerdeVal → SerOut) (target : Nat)
    (es : List (SerdeVal × SerdeVal)) (buffer : Bytes) (items : Nat) (out : Bytes) (cnt : Nat) (h : cnt = out.length) :
    Counted (bufferedBlocks ser keyed serKey target es buffer items out cnt) := by
  fun_induction bufferedBlocks ser keyed serKey target es buffer items out cnt with
  | case1 buffer items out cnt out' cnt' hw =>
    refine counted_ok ?_
    split at hw
    · simp [writeBlock_counted h hw]
    · cases hw; simp [h]
  | case2 | case3 => exact counted_error _
  | case4 => rename_i hw ih; exact ih (writeBlock_counted h hw)
  | case5 => rename_i ih; exact ih h

theorem blockSer_counted (tbs : Option Nat) {ser : SerdeVal → SerOut} (keyed : Bool) {serKey : SerdeVal → SerOut}
    (len : Option Nat) (es : List (SerdeVal × SerdeVal)) (hs : ∀ v, Counted (ser v)) (hk : ∀ k, Counted (serKey k)) :
    Counted (blockSer tbs ser keyed serKey len es) := by
  fun_cases blockSer tbs ser keyed serKey len es
  next heq => exact direct_counted _ hs hk es _ _ (by split at heq <;> cases heq <;> rfl)
  next => exact buffered_counted ser keyed serKey _ es [] 0 [] 0 rfl

theorem tupleFields_counted {ser : Schema → SerdeVal → SerOut} (hs : ∀ s v, Counted (ser s v))
    (fs : List (FieldMeta × Schema)) (xs : List SerdeVal) (out : Bytes) (cnt : Nat) (h : cnt = out.length) :
    Counted (tupleFields ser fs xs out cnt) := by
  fun_induction tupleFields ser fs xs out cnt with
  | case1 => exact counted_ok h
  | case2 | case4 => exact counted_error _
  | case3 _ s _ x _ out cnt b n hb ih => exact ih (by simp [h, hs s x b n hb])

def RecOk (st : RecSt) : Prop := st.cnt = st.out.length

theorem flushCache_recOk (fuel : Nat) (st : RecSt) (h : RecOk st) : RecOk (flushCache fuel st) := by
  fun_induction flushCache fuel st with
  | case1 | case3 => exact h
  | case2 _ st _ b _ ih => exact ih (by simp [RecOk] at h ⊢; omega)

theorem nextField_recOk {n : Nat} {st st' : RecSt} {p : Nat} {bo : SerOut} (hb : Counted bo) (h : RecOk st)
    (hr : nextField n st p bo = .ok st') : RecOk st' := by
  obtain ⟨b, k, rfl, ⟨-, rfl⟩ | ⟨-, -, rfl⟩⟩ := nextField_ok hr
  · exact flushCache_recOk _ _ (by simp [RecOk] at h ⊢; rw [hb b k rfl]; omega)
  · exact h

section
variable {env : Names} {ser : Schema → SerdeVal → SerOut} {fields : List (FieldMeta × Schema)}

theorem fieldBytes_counted (hs : ∀ s v, Counted (ser s v)) (ms : FieldMeta × Schema) (val : Option SerdeVal) :
    Counted (fieldBytes env ser ms val) := fun b n h =>
  have ⟨v, hv, _⟩ := fieldBytes_ok h
  hs ms.2 v b n hv

theorem recordFields_recOk (hs : ∀ s v, Counted (ser s v)) (given : List (Bytes × Option SerdeVal)) : ∀ (st st' : RecSt),
    RecOk st → recordFields env ser fields given st = .ok st' → RecOk st' := by
  induction given with
  | nil => intro st st' h hr; cases hr; exact h
  | cons kv rest ih =>
    intro st st' h hr
    obtain ⟨p, ms, st1, -, -, hn, hr⟩ := recordFields_cons_ok hr
    exact ih st1 st' (nextField_recOk (fieldBytes_counted hs ms kv.2) h hn) hr

theorem recordEnd_recOk (hs : ∀ s v, Counted (ser s v)) (fuel : Nat) : ∀ (st st' : RecSt),
    RecOk st → recordEnd env ser fields fuel st = .ok st' → RecOk st' := by
  induction fuel with
  | zero =>
    intro st st' h hr
    simp only [recordEnd] at hr
    split at hr <;> cases hr
    exact h
  | succ fuel ih =>
    intro st st' h hr
    obtain ⟨-, rfl⟩ | ⟨ms, st1, -, hn, hr⟩ := recordEnd_succ_ok hr
    · exact h
    · exact ih st1 st' (nextField_recOk (fieldBytes_counted hs ms none) h hn) hr

end

theorem Counted.count_eq {o : SerOut} (h : Counted o) {r : Bytes × Nat} (hr : o = .ok r) : r.2 = r.1.length :=
  h r.1 r.2 hr

/-- **the returned count is the number of bytes emitted**, for every value of the modelled
fragment, every schema, every block size and every recursion budget -/
theorem count_eq_length (tbs : Option Nat) (env : Names) : ∀ (fuel : Nat) (s : Schema) (x : SerdeVal),
    Counted (serS tbs env fuel s x) := by
  intro fuel
  induction fuel with
  | zero => exact fun _ _ => counted_error _
  | succ fuel ih =>
    intro s0 x
    suffices ∀ r, serS tbs env (fuel + 1) s0 x = .ok r → r.2 = r.1.length from fun b n h => this (b, n) h
    intro r h
    obtain ⟨s, -, hs⟩ := serS_ok h
    cases x
    case bool | unit => obtain ⟨-, rfl⟩ := hs; rfl
    case i8 | i16 | i32 | u8 | u16 | i64 | u32 => obtain ⟨-, rfl⟩ := hs; exact varint_counted _
    case u64 => exact hs.elim
    case f32 | f64 => obtain ⟨-, rfl⟩ := hs; exact (leBytes_length _ _).symm
    case char | str => obtain ⟨-, rfl⟩ := hs; exact withLen_counted _
    case bytes =>
      simp only [SerStep] at hs
      split at hs
      iterate 4 (cases hs; exact withLen_counted _)
      iterate 4 (obtain ⟨-, rfl⟩ := hs; rfl)
      exact hs.elim
    case none => obtain ⟨_, _, -, -, rfl⟩ := hs; exact varint_counted _
    case some =>
      obtain ⟨_, _, _, vb, vn, -, -, -, hv, rfl⟩ := hs
      simp [varint, ih _ _ vb vn hv]
    case unitStruct => obtain ⟨_, -, -, rfl⟩ := hs; rfl
    case unitVariant => obtain ⟨_, _, _, _, -, -, rfl⟩ := hs; exact varint_counted _
    case newtypeStruct => obtain ⟨_, _, _, -, -, hr⟩ := hs; exact (ih _ _).count_eq hr
    case seq => obtain ⟨inner, -, hr⟩ := hs; exact (blockSer_counted tbs false _ _ (ih inner) fun _ => counted_ok rfl).count_eq hr
    case map => obtain ⟨inner, -, hr⟩ := hs; exact (blockSer_counted tbs true _ _ (ih inner) (ih .string)).count_eq hr
    case tuple =>
      obtain ⟨-, -, rfl⟩ | ⟨_, -, hr⟩ | ⟨_, _, -, hr⟩ := hs
      · rfl
      · exact (ih _ _).count_eq hr
      · exact (tupleFields_counted ih _ _ _ _ rfl).count_eq hr
    case tupleStruct => obtain ⟨_, _, -, -, hr⟩ := hs; exact (tupleFields_counted ih _ _ _ _ rfl).count_eq hr
    case struct =>
      obtain ⟨_, _, st, st', -, h1, h2, rfl⟩ := hs
      exact recordEnd_recOk ih _ st st' (recordFields_recOk ih _ {} st rfl h1) h2

/-- the bytes one entry contributes (the key, for a map, then the value); `none` when a serializer fails -/
def entryBytes (ser : SerdeVal → SerOut) (keyed : Bool) (serKey : SerdeVal → SerOut) (kv : SerdeVal × SerdeVal) :
    Option Bytes :=
  match (if keyed then serKey kv.1 else .ok ([], 0)), ser kv.2 with
  | .ok (kb, _), .ok (vb, _) => some (kb ++ vb)
  | _, _ => none

/-- one block in the sized form: negative item count, byte size, the items -/
def negBlock (items : List Bytes) : Bytes :=
  encLong (0 - (items.length : Int)) ++ encLong items.flatten.length ++ items.flatten

def bytesOf (r : SerOut) : Except Err Bytes := match r with | .ok (b, _) => .ok b | .error e => .error e

theorem mapM_cons_some {α β : Type} {f : α → Option β} {a : α} {l : List α} {r : List β} :
    (a :: l).mapM f = some r ↔ ∃ b bs, f a = some b ∧ l.mapM f = some bs ∧ r = b :: bs := by
  cases hf : f a <;> cases hl : l.mapM f <;> simp [List.mapM_cons, hf, hl, eq_comm]

variable {ser : SerdeVal → SerOut} {keyed : Bool} {serKey : SerdeVal → SerOut}

theorem entryBytes_some {k v : SerdeVal} {e : Bytes} (h : entryBytes ser keyed serKey (k, v) = some e) :
    ∃ kb kn vb vn, (if keyed then serKey k else .ok ([], 0)) = .ok (kb, kn) ∧ ser v = .ok (vb, vn) ∧ e = kb ++ vb := by
  unfold entryBytes at h
  split at h <;> cases h
  exact ⟨_, _, _, _, ‹_›, ‹_›, rfl⟩

/-- without a target block size (and with the length known): after what was written before (`out`: the count, see
`blockSer_layout`) the items, then the end marker -/
theorem direct_layout (ser : SerdeVal → SerOut) (keyed : Bool) (serKey : SerdeVal → SerOut) (len : Nat) :
    ∀ (es : List (SerdeVal × SerdeVal)) (ebs : List Bytes) (out : Bytes) (cnt : Nat),
      es.mapM (entryBytes ser keyed serKey) = some ebs →
      bytesOf (directBlocks ser keyed serKey len es out cnt) = .ok (out ++ ebs.flatten ++ [0]) := by
  intro es
  induction es with
  | nil => intro ebs out cnt h; cases h; simp [directBlocks, bytesOf]
  | cons kv rest ih =>
    obtain ⟨k, v⟩ := kv
    intro ebs out cnt h
    obtain ⟨_, ebs', he, hr, rfl⟩ := mapM_cons_some.mp h
    obtain ⟨kb, kn, vb, vn, hk, hv, rfl⟩ := entryBytes_some he
    simp only [directBlocks, hk, hv]
    rw [ih ebs' _ _ hr]
    simp [List.append_assoc]

theorem writeBlock_fst (pend : List Bytes) (out : Bytes) (cnt : Nat) :
    (writeBlock pend.length pend.flatten out cnt).1 = out ++ negBlock pend := by
  simp [writeBlock, negBlock, List.append_assoc]

/-- **for every target block size** the buffered serializer writes a sequence of non-empty sized
blocks whose items, concatenated, are exactly the pending items followed by the entries' bytes, in
order, and then the end marker -/
theorem buffered_layout (ser : SerdeVal → SerOut) (keyed : Bool) (serKey : SerdeVal → SerOut) (target : Nat) :
    ∀ (es : List (SerdeVal × SerdeVal)) (ebs pend : List Bytes) (out : Bytes) (cnt : Nat),
      es.mapM (entryBytes ser keyed serKey) = some ebs →
      ∃ (parts : List (List Bytes)), (∀ p ∈ parts, p ≠ []) ∧ parts.flatten = pend ++ ebs ∧
        bytesOf (bufferedBlocks ser keyed serKey target es pend.flatten pend.length out cnt) =
          .ok (out ++ (parts.map negBlock).flatten ++ [0]) := by
  intro es
  induction es with
  | nil =>
    intro ebs pend out cnt h
    cases h
    cases pend with
    | nil => exact ⟨[], nofun, rfl, by simp [bufferedBlocks, bytesOf]⟩
    | cons p ps =>
      exact ⟨[p :: ps], by simp, by simp, by simp [bufferedBlocks, writeBlock, negBlock, bytesOf, List.append_assoc]⟩
  | cons kv rest ih =>
    obtain ⟨k, v⟩ := kv
    intro ebs pend out cnt h
    obtain ⟨_, ebs', he, hr, rfl⟩ := mapM_cons_some.mp h
    obtain ⟨kb, kn, vb, vn, hk, hv, rfl⟩ := entryBytes_some he
    have hflat : pend.flatten ++ kb ++ vb = (pend ++ [kb ++ vb]).flatten := by simp [List.append_assoc]
    have hlen : pend.length + 1 = (pend ++ [kb ++ vb]).length := by simp
    simp only [bufferedBlocks, hk, hv]
    rw [hflat, hlen]
    -- the model tests and writes the buffer with the new entry in it: name it, so that `split` sees one term
    generalize hp : pend ++ [kb ++ vb] = pend'
    split
    · -- the block is full: it is written, and the next one starts empty
      obtain ⟨parts, hne, hfl, hrun⟩ := ih ebs' []
        (writeBlock pend'.length pend'.flatten out cnt).1 (writeBlock pend'.length pend'.flatten out cnt).2 hr
      rw [List.flatten_nil, List.length_nil] at hrun
      exact ⟨pend' :: parts, List.forall_mem_cons.mpr ⟨by simp [← hp], hne⟩, by simp [hfl, ← hp],
        by rw [hrun, writeBlock_fst]; simp [List.append_assoc]⟩
    · obtain ⟨parts, hne, hfl, hrun⟩ := ih ebs' pend' out cnt hr
      exact ⟨parts, hne, by simp [hfl, ← hp], hrun⟩

theorem direct_ok_mapM {len : Nat} {es : List (SerdeVal × SerdeVal)} {out : Bytes} {cnt : Nat} {r : Bytes × Nat}
    (h : directBlocks ser keyed serKey len es out cnt = .ok r) : ∃ ebs, es.mapM (entryBytes ser keyed serKey) = some ebs := by
  fun_induction directBlocks ser keyed serKey len es out cnt with
  | case1 => exact ⟨[], rfl⟩
  | case2 | case3 => cases h
  | case4 _ _ _ _ _ kb _ hk vb _ hv ih =>
    obtain ⟨ebs, he⟩ := ih h
    exact ⟨(kb ++ vb) :: ebs, by simp [List.mapM_cons, entryBytes, hk, hv, he]⟩

theorem buffered_ok_mapM {target : Nat} {es : List (SerdeVal × SerdeVal)} {buffer : Bytes} {items : Nat} {out : Bytes}
    {cnt : Nat} {r : Bytes × Nat} (h : bufferedBlocks ser keyed serKey target es buffer items out cnt = .ok r) :
    ∃ ebs, es.mapM (entryBytes ser keyed serKey) = some ebs := by
  fun_induction bufferedBlocks ser keyed serKey target es buffer items out cnt with
  | case1 => exact ⟨[], rfl⟩
  | case2 | case3 => cases h
  | case4 _ _ _ _ _ _ _ kb _ hk vb _ hv _ _ _ _ _ _ ih | case5 _ _ _ _ _ _ _ kb _ hk vb _ hv _ _ _ ih =>
    obtain ⟨ebs, he⟩ := ih h
    exact ⟨(kb ++ vb) :: ebs, by simp [List.mapM_cons, entryBytes, hk, hv, he]⟩

/-- `b` lays the entries' encodings `ebs` out as blocks: one counted block (none when there is no entry), or sized
blocks -/
def Laid (ebs : List Bytes) (b : Bytes) : Prop :=
  b = (if ebs.length ≠ 0 then encLong ebs.length else []) ++ ebs.flatten ++ [0] ∨
  ∃ parts : List (List Bytes), (∀ p ∈ parts, p ≠ []) ∧ parts.flatten = ebs ∧ b = (parts.map negBlock).flatten ++ [0]

theorem negBlocks_part_lt {parts : List (List Bytes)} {p : List Bytes} (hp : p ∈ parts) :
    p.flatten.length < ((parts.map negBlock).flatten ++ [0]).length := by
  have := (List.sublist_flatten_of_mem (List.mem_map_of_mem (f := negBlock) hp)).length_le
  simp only [negBlock, List.length_append, List.length_singleton] at this ⊢
  omega

theorem negBlocks_length (parts : List (List Bytes)) :
    parts.flatten.flatten.length ≤ (parts.map negBlock).flatten.length := by
  induction parts with
  | nil => simp
  | cons p ps ih =>
    simp only [List.flatten_cons, List.flatten_append, List.length_append, List.map_cons, negBlock]
    omega

theorem Laid.flatten_lt {ebs : List Bytes} {b : Bytes} (h : Laid ebs b) : ebs.flatten.length < b.length := by
  rcases h with rfl | ⟨parts, -, rfl, rfl⟩
  · simp only [List.length_append, List.length_singleton]; omega
  · have := negBlocks_length parts
    simp only [List.length_append, List.length_singleton]; omega

theorem mapM_some_length {α β : Type} {f : α → Option β} {l : List α} : ∀ {r : List β},
    l.mapM f = some r → r.length = l.length := by
  induction l with
  | nil => intro r h; cases h; rfl
  | cons _ _ ih =>
    intro r h
    obtain ⟨_, _, -, hr, rfl⟩ := mapM_cons_some.mp h
    simp [ih hr]

theorem blockSer_layout {tbs : Option Nat} {len : Option Nat} {entries : List (SerdeVal × SerdeVal)} {r : Bytes × Nat}
    (hlen : len = none ∨ len = some entries.length) (h : blockSer tbs ser keyed serKey len entries = .ok r) :
    ∃ ebs, entries.mapM (entryBytes ser keyed serKey) = some ebs ∧ Laid ebs r.1 := by
  obtain ⟨b, n⟩ := r
  revert h
  fun_cases blockSer tbs ser keyed serKey len entries <;> intro h
  next m out cnt heq =>
    obtain ⟨ebs, he⟩ := direct_ok_mapM h
    have hd := direct_layout ser keyed serKey m entries ebs out cnt he
    rw [h] at hd
    cases hd
    cases hlen.resolve_left nofun
    refine ⟨ebs, he, .inl ?_⟩
    rw [mapM_some_length he]
    split at heq <;> cases heq <;> simp_all
  next =>
    obtain ⟨ebs, he⟩ := buffered_ok_mapM h
    obtain ⟨parts, hne, hfl, hrun⟩ := buffered_layout ser keyed serKey _ entries ebs [] [] 0 he
    rw [List.flatten_nil, List.length_nil, h] at hrun
    cases hrun
    exact ⟨ebs, he, .inr ⟨parts, hne, hfl, by simp⟩⟩

/-- **record fields come out in schema order**: when serializing a struct against a record schema succeeds, the bytes
are the concatenation, over the schema's fields in schema order, of `specField … i`: the bytes of the value handed
over under a key that resolves to field `i` (its default when that value was skipped), or of the field's default
when the type never handed the field over.  For every order of the fields, every set of skipped or missing fields,
every schema, block size and recursion budget. -/
theorem record_in_schema_order (tbs : Option Nat) (env : Names) (fuel : Nat) (s0 : Schema) (rn : Bytes)
    (rfields : List (FieldMeta × Schema)) (name : Bytes) (given : List (Bytes × Option SerdeVal)) (b : Bytes) (k : Nat)
    (hs : derefS env s0 = some (.record rn rfields))
    (hok : serS tbs env (fuel + 1) s0 (.struct name given) = .ok (b, k)) :
    ∃ bs : List Bytes, bs.length = rfields.length ∧ b = bs.flatten ∧
      ∀ i x, bs[i]? = some x → ∃ n, specField env (serS tbs env fuel) rfields given i = .ok (x, n) := by
  obtain ⟨s, hd, hstep⟩ := serS_ok hok
  obtain ⟨_, _, st, st', hrec, h1, h2, hr⟩ := hstep
  cases hs.symm.trans hd; cases hrec; cases hr
  obtain ⟨bs, hl, hsp, hout⟩ := record_inv h1 h2
  exact ⟨bs, hl, hout, hsp⟩

/-- non-vacuity: `record R {a: int, b: string = "x", c: long}` handed `c`, then `a` (and never `b`): the bytes are
`a`'s, the default of `b`, then `c`'s -/
example : serS none [] 5
    (.record [82] [({ name := [97] }, .int), ({ name := [98], default := some (.str [120]) }, .string), ({ name := [99] }, .long)])
    (.struct [82] [([99], some (.i64 (-1))), ([97], some (.i32 3))]) = .ok ([6, 2, 120, 1], 4) := by rfl

end Avro.C16
