import AvroModel.Derive
import AvroProofs.Lemmas.DeriveWf
/-!
# C17 — derived schemas

`Avro.deriveSchema` is the model of `T::get_schema()` for a type defined in
the type-definition language of `AvroModel/Derive.lean`; the correspondence check compares it, row
by row, with the schemas the real derive macro produces for a generated corpus of definitions.

What is proved here, for every environment of definitions, every type and every amount of fuel:

* the derived record fields are exactly the unskipped fields, in declaration order, under the names
  serde uses for them (`derived_fields_are_serde_fields`, `derived_tuple_fields`);
* the branches of a derived union of records are exactly the unskipped variants, in declaration
  order, named as serde names them (`derived_variants_are_serde_variants`);
* the default of a derived plain enum is one of its symbols (`plain_enum_default_is_symbol`);
* `Option<T>` derives to `[null, T]` or panics, never anything else, and it panics exactly when the
  two-branch union is no legal union (`option_shape`);
* a struct whose name is already defined derives to a reference - it is never defined twice on the path
  through one `named` set (`defined_name_gives_ref`; the model does the same for a plain enum, no theorem says so);
* a transparent struct derives to what its one unskipped field derives to (`transparent_is_its_field`);
  a flattened field is replaced in place by the record fields of its type (`flatten_splices`), and
  flattening a type without record fields is a panic (`flatten_of_non_record_panics`);
* `derive_wf_partial`: when the names the attributes produce are identifiers and distinct within each
  record / enum and no definition has a `flatten` field or a tagged enum representation (`DeriveEnvOk`, a decidable
  condition on all the definitions; it is what the kebab-case finding violates), every derived schema satisfies `wfP` - the well-formedness predicate every
  schema accepted by the parser satisfies (C11): names, symbols and field names match the grammars,
  field names are unique, unions obey the union rules, enum defaults are symbols.  The field names
  `field_0, field_1, …` of tuple variants are proved to be distinct identifiers outright.  What
  `wfP` does NOT say is that full names are defined once in the whole schema - that is exactly what
  `variant_records_defined_twice` refutes.

The full statement of C17 (the derived schema is well formed for every type) is FALSE of the code,
and the three ways it fails are kernel-checked here on concrete definitions and replayed on the crate
by the correspondence check (known findings): `option_of_union_panics`, `kebab_case_symbol_outside_grammar`,
`variant_records_defined_twice`.
-/
namespace Avro
namespace C17

theorem derived_fields_are_serde_fields (go : List PName → Option Bytes → TyExpr → DOut) (goF : List PName → Option Bytes → TyExpr → DFields) (dflt : TyExpr → Option Json) (rule : RenameRule) :
    ∀ (fs : List FieldDef) (named : List PName) (ns : Option Bytes) out named',
      deriveFieldsWith go goF dflt rule fs named ns = some (out, named') → fs.all (fun f => !f.flatten) = true →
      out.map (fun f => f.1.name) = (fs.filter (fun f => !f.skip)).map (fun f => fieldName f rule) := by
  intro fs named ns out named' h hnf
  simpa [List.map_map, Function.comp_def] using
    congrArg (List.map Prod.fst) (deriveFields_ok hnf _ h).1

/-- tuple variants: one field per element, named `field_0`, `field_1`, … -/
theorem derived_tuple_fields (go : List PName → Option Bytes → TyExpr → DOut) (dflt : TyExpr → Option Json) :
    ∀ (tys : List TyExpr) (i : Nat) (named : List PName) (ns : Option Bytes) out named',
      deriveTupleFieldsWith go dflt tys i named ns = some (out, named') →
      out.map (fun f => f.1.name) = (List.range tys.length).map (fun k => b!"field_" ++ natBytes (i + k)) := by
  intro tys i named ns out named' h
  have := congrArg (List.map Prod.fst) (deriveTupleFields_ok _ h).1
  simpa [List.map_map, Function.comp_def, List.range'_eq_map_range, tupleFieldName] using this

theorem derived_variants_are_serde_variants (go : List PName → Option Bytes → TyExpr → DOut) (goF : List PName → Option Bytes → TyExpr → DFields) (dflt : TyExpr → Option Json) (r rf : RenameRule) :
    ∀ (vs : List VariantDef) (named : List PName) (ns : Option Bytes) out named',
      deriveVariantsWith go goF dflt r rf vs named ns = some (out, named') →
      out.map PSchema.pname? = (vs.filter (fun v => !v.skip)).map (fun v => PName.make (variantName v r) ns) :=
  fun _ _ _ _ _ h => (deriveVariants_ok _ h).1

/-- what a unit-only enum derives to -/
def plainEnumOf (pn : PName) (al : Option (List PName)) (doc : Option Bytes) (rule : RenameRule) (variants : List VariantDef) : PSchema :=
  let live := variants.filter (fun v => !v.skip)
  .enum pn al doc (live.map (fun v => variantName v rule)) ((live.find? (fun v => v.isDefault)).map (fun v => variantName v rule)) []

theorem plain_enum_default_is_symbol (pn : PName) (al doc) (rule : RenameRule) (variants : List VariantDef)
    (name al' doc' symbols d attrs)
    (h : plainEnumOf pn al doc rule variants = .enum name al' doc' symbols (some d) attrs) : d ∈ symbols := by
  unfold plainEnumOf at h
  injection h with _ _ _ hs hd _
  subst hs
  have := optMem_find_map (fun v => v.isDefault) (fun v => variantName v rule) (variants.filter (fun v => !v.skip))
  rw [hd] at this
  exact List.contains_iff_mem.mp this

/-- a unit-only enum that is not yet defined derives to `plainEnumOf`, and is then defined -/
theorem plain_enum_shape (env : DEnv) (fuel : Nat) (named : List PName) (ns : Option Bytes) (ident : Bytes)
    (i name doc aliases rule rulef variants) (pn : PName) (al : Option (List PName))
    (hfind : env.find? ident = some (.enum i name doc aliases rule rulef variants))
    (hunit : plainLike variants = true)
    (hname : PName.make name ns = some pn) (hnew : pn ∉ named) (hal : deriveAliases aliases = some al) :
    deriveTy env (fuel+1) named ns (.named ident) = some (plainEnumOf pn al doc rule variants, pn :: named) := by
  simp [deriveTy, hfind, hunit, hname, hnew, hal, plainEnumOf]

/-- `Option<T>`: `[null, T]`, or a panic exactly when that is no legal union -/
theorem option_shape (env : DEnv) (fuel : Nat) (named : List PName) (ns : Option Bytes) (t : TyExpr) :
    deriveTy env (fuel+1) named ns (.option t) =
      match deriveTy env fuel named ns t with
      | none => none
      | some (s, named') => if (unionNew [.null, s] [] []).isSome then some (.union [.null, s], named') else none := by
  simp only [deriveTy]
  cases deriveTy env fuel named ns t with
  | none => rfl
  | some r =>
    obtain ⟨s, n'⟩ := r
    cases h : unionNew [.null, s] [] [] <;> simp [h]

/-- a union inside an `Option` is such a panic -/
theorem option_of_union_is_a_panic (env : DEnv) (fuel : Nat) (named named' : List PName) (ns : Option Bytes) (t : TyExpr)
    (bs : List PSchema) (h : deriveTy env fuel named ns t = some (.union bs, named')) :
    deriveTy env (fuel+1) named ns (.option t) = none := by
  rw [option_shape, h]
  simp [unionNew, PSchema.pname?, PSchema.baseKind]

/-- a struct whose name is in the set of defined names derives to a reference -/
theorem defined_name_gives_ref (env : DEnv) (fuel : Nat) (named : List PName) (ns : Option Bytes) (ident : Bytes)
    (i name doc aliases rule fields) (pn : PName)
    (hfind : env.find? ident = some (.struct i name doc aliases rule fields))
    (hname : PName.make name ns = some pn) (hin : pn ∈ named) :
    deriveTy env (fuel+1) named ns (.named ident) = some (.ref pn, named) := by
  simp [deriveTy, hfind, hname, hin]

/-- a transparent struct derives to exactly what the type of its one unskipped field derives to
(nothing is registered under the struct's own name) -/
theorem transparent_is_its_field (env : DEnv) (fuel : Nat) (named : List PName) (ns : Option Bytes) (ident i : Bytes)
    (fields : List FieldDef) (f : FieldDef)
    (hfind : env.find? ident = some (.transparent i fields)) (hf : transparentField fields = some f) :
    deriveTy env (fuel+1) named ns (.named ident) = deriveTy env fuel named ns f.ty := by
  simp [deriveTy, hfind, hf]

/-- a flattened field is replaced, in place, by the record fields of its type -/
theorem flatten_splices (go : List PName → Option Bytes → TyExpr → DOut) (goF : List PName → Option Bytes → TyExpr → DFields)
    (dflt : TyExpr → Option Json) (rule : RenameRule) (f : FieldDef) (rest : List FieldDef) (named named' named'' : List PName)
    (ns : Option Bytes) (inner fs : List (FieldHdr × PSchema))
    (hskip : f.skip = false) (hflat : f.flatten = true)
    (h1 : goF named ns f.ty = some (some inner, named'))
    (h2 : deriveFieldsWith go goF dflt rule rest named' ns = some (fs, named'')) :
    deriveFieldsWith go goF dflt rule (f :: rest) named ns = some (inner ++ fs, named'') := by
  simp [deriveFieldsWith, hskip, hflat, h1, h2]

/-- flattening a type without record fields (a scalar, an `Option`, a `Vec`, an enum) is a panic in `get_schema()` -/
theorem flatten_of_non_record_panics (go : List PName → Option Bytes → TyExpr → DOut) (goF : List PName → Option Bytes → TyExpr → DFields)
    (dflt : TyExpr → Option Json) (rule : RenameRule) (f : FieldDef) (rest : List FieldDef) (named named' : List PName) (ns : Option Bytes)
    (hskip : f.skip = false) (hflat : f.flatten = true) (h1 : goF named ns f.ty = some (none, named')) :
    deriveFieldsWith go goF dflt rule (f :: rest) named ns = none := by
  simp [deriveFieldsWith, hskip, hflat, h1]

/-- the fields a derived struct offers for flattening are built in the CALLER's namespace: the struct's
own `#[avro(namespace)]` does not apply to the named types its fields mention -/
def envFlatNs : DEnv :=
  [ .struct b!"Point" b!"Point" none [] .none [ { ident := b!"x", ty := .i32 } ],
    .struct b!"Spot" b!"geo.Spot" none [] .none [ { ident := b!"at", ty := .named b!"Point" } ],
    .struct b!"Flat" b!"Flat" none [] .none [ { ident := b!"spot", ty := .named b!"Spot", flatten := true } ] ]

example :
    deriveSchema envFlatNs 20 b!"Spot" = some
      (.record ⟨some b!"geo", b!"Spot"⟩ none none
        [ (⟨b!"at", none, [], none, []⟩, .record ⟨some b!"geo", b!"Point"⟩ none none [ (⟨b!"x", none, [], none, []⟩, .int) ] []) ] []) := by
  rfl

example :
    deriveSchema envFlatNs 20 b!"Flat" = some
      (.record ⟨none, b!"Flat"⟩ none none
        [ (⟨b!"at", none, [], none, []⟩, .record ⟨none, b!"Point"⟩ none none [ (⟨b!"x", none, [], none, []⟩, .int) ] []) ] []) := by
  rfl

theorem derive_wf_partial (env : DEnv) (henv : DeriveEnvOk env) (fuel : Nat) (ident : Bytes) (s : PSchema)
    (h : deriveSchema env fuel ident = some s) : wfP s = true := by
  obtain ⟨r, hr, rfl⟩ := Option.map_eq_some_iff.mp h
  exact deriveTy_good env henv fuel _ _ _ _ hr

/-! ### the three ways the full statement fails (kernel-checked witnesses; known findings) -/

def envOpt : DEnv :=
  [ .enum b!"E" b!"E" none [] .none .none
      [ { ident := b!"A" }, { ident := b!"B", shape := .tuple [.i32] } ],
    .struct b!"S" b!"S" none [] .none [ { ident := b!"f", ty := .option (.named b!"E") } ] ]

/-- `struct S { f: Option<E> }` with `enum E { A, B(i32) }`: `S::get_schema()` panics -/
theorem option_of_union_panics : deriveSchema envOpt 20 b!"S" = none := by rfl

/-- `Option<Option<i32>>` likewise -/
theorem option_of_option_panics :
    deriveSchema [ .struct b!"S" b!"S" none [] .none [ { ident := b!"f", ty := .option (.option .i32) } ] ] 20 b!"S" = none := by
  rfl

def envKebab : DEnv :=
  [ .enum b!"E" b!"E" none [] .kebab .none [ { ident := b!"FirstOne", isDefault := true }, { ident := b!"Second" } ] ]

/-- `#[serde(rename_all = "kebab-case")] enum E { FirstOne, Second }` derives the symbol `first-one`,
which is no Avro name -/
theorem kebab_case_symbol_outside_grammar :
    ∃ pn, deriveSchema envKebab 20 b!"E" = some (.enum pn none none [b!"first-one", b!"second"] (some b!"first-one") [])
      ∧ isIdent b!"first-one" = false := by
  refine ⟨{ ns := none, name := b!"E" }, by rfl, by decide⟩

def envTwice : DEnv :=
  [ .enum b!"E" b!"E" none [] .none .none
      [ { ident := b!"A" }, { ident := b!"B", shape := .tuple [.i32] } ],
    .struct b!"S" b!"S" none [] .none [ { ident := b!"x", ty := .named b!"E" }, { ident := b!"y", ty := .named b!"E" } ] ]

/-- all record definitions (not references) in a schema, in order -/
def definedRecords : Nat → PSchema → List PName
  | 0, _ => []
  | fuel+1, .record n _ _ fs _ => n :: fs.flatMap (fun f => definedRecords fuel f.2)
  | fuel+1, .array s _ => definedRecords fuel s
  | fuel+1, .map s _ => definedRecords fuel s
  | fuel+1, .union bs => bs.flatMap (definedRecords fuel)
  | _, _ => []

/-- `struct S { x: E, y: E }` with `enum E { A, B(i32) }`: the records `A` and `B` are defined twice -/
theorem variant_records_defined_twice :
    (deriveSchema envTwice 20 b!"S").map (definedRecords 10) =
      some [⟨none, b!"S"⟩, ⟨none, b!"A"⟩, ⟨none, b!"B"⟩, ⟨none, b!"A"⟩, ⟨none, b!"B"⟩] := by
  rfl

/-! ### non-vacuity: a definition that derives -/

def envOk : DEnv :=
  [ .enum b!"Suit" b!"Suit" none [] .none .none [ { ident := b!"Clubs", isDefault := true }, { ident := b!"Hearts", skip := true }, { ident := b!"Spades" } ],
    .struct b!"T" b!"ns.T" none [] .camel
      [ { ident := b!"my_suit", ty := .named b!"Suit" }, { ident := b!"hidden", ty := .i32, skip := true },
        { ident := b!"others", ty := .vec (.named b!"Suit") }, { ident := b!"next", ty := .option (.boxed (.named b!"T")) } ] ]

example :
    deriveSchema envOk 20 b!"T" = some
      (.record ⟨some b!"ns", b!"T"⟩ none none
        [ (⟨b!"mySuit", none, [], none, []⟩, .enum ⟨some b!"ns", b!"Suit"⟩ none none [b!"Clubs", b!"Spades"] (some b!"Clubs") []),
          (⟨b!"others", none, [], none, []⟩, .array (.ref ⟨some b!"ns", b!"Suit"⟩) []),
          (⟨b!"next", none, [], some .null, []⟩, .union [.null, .ref ⟨some b!"ns", b!"T"⟩]) ] []) := by
  rfl

/-- the hypothesis of `derive_wf_partial` holds of this environment, and fails of the kebab-case one -/
example : DeriveEnvOk envOk := by unfold DeriveEnvOk; decide
example : DeriveEnvOk envTwice := by unfold DeriveEnvOk; decide
example : ¬ DeriveEnvOk envKebab := by unfold DeriveEnvOk; decide

end C17
end Avro
