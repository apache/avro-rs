import AvroModel
import AvroProofs.Lemmas.Container
/-!
# C14 — a truncated or marker-corrupted file yields only a true prefix, then an error

Statements are about the model reader's block loop (`readBlocks`) on the *body* of a file (what
follows the header); `blocks` are well-formed blocks as the writer lays them out (`BlockOk`, `blockOf`: Lemmas/Container.lean).
The header part (a cut inside the header makes opening fail) is `cut_inside_header`: the header
reader is framed (magic, metadata map through the framed datum decoder, marker), so it cannot
succeed on a strict prefix of the bytes it consumed - for every file, every metadata layout and
every offset inside the header.
-/
namespace Avro.C14

variable (cfg : Cfg) (codec : Codec) (f : Reader Value) (marker : Bytes)

/-- cut exactly on a block boundary: the values of the blocks before the cut, clean end -/
theorem cut_on_boundary (hm : marker.length = 16) (hc : ∀ x, codec.decompress (codec.compress x) = .ok x)
    (blocks : List Items) (hok : ∀ b ∈ blocks, BlockOk cfg codec f b) (k : Nat) (fuel : Nat) :
    readBlocks cfg codec f marker ((blocks.take k).length + (fuel + 1)) ((blocks.take k).flatMap (blockOf codec marker)) =
      ((blocks.take k).flatMap Items.values, .clean) := by
  simpa [readBlocks] using
    readBlocks_append hm hc (blocks.take k) (fun b hb => hok b (List.mem_of_mem_take hb)) [] (fuel + 1)

/-- **cut inside a block**: the file holds the whole blocks `blocks` followed by a non-empty strict prefix
`p` of the next one (wherever the cut falls: in the count — also after the first byte of a
two-byte count —, in the size, in the payload or in the marker).  Exactly the values of the
whole blocks are delivered and the stop is an error. -/
theorem cut_inside_block (hm : marker.length = 16) (hc : ∀ x, codec.decompress (codec.compress x) = .ok x)
    (blocks : List Items) (hok : ∀ b ∈ blocks, BlockOk cfg codec f b)
    (next : Items) (hnext : BlockOk cfg codec f next)
    (p q : Bytes) (hp : p ≠ []) (hq : q ≠ []) (hcut : p ++ q = blockOf codec marker next) (fuel : Nat) :
    ∃ e, readBlocks cfg codec f marker (blocks.length + (fuel + 1)) (blocks.flatMap (blockOf codec marker) ++ p) =
      (blocks.flatMap Items.values, .error e) := by
  obtain ⟨_, hlen, hsz, hl63, _, _⟩ := hnext
  obtain ⟨e, he⟩ := readBlocks_cut (codec := codec) (f := f) hm _ _ hlen hsz hl63 p q hp hq hcut fuel
  exact ⟨e, by simp [readBlocks_append hm hc blocks hok p (fuel + 1), he]⟩

/-- **corrupted marker**: if the trailing marker of the block after `blocks` differs from the file's sync marker in
any bit (`bad ≠ marker`), exactly the values of the blocks before it are delivered, nothing of that
block or of anything after it (`rest` is arbitrary), and an error is reported. -/
theorem marker_corrupt (hm : marker.length = 16) (hc : ∀ x, codec.decompress (codec.compress x) = .ok x)
    (blocks : List Items) (hok : ∀ b ∈ blocks, BlockOk cfg codec f b)
    (victim : Items) (hv : BlockOk cfg codec f victim) (bad : Bytes) (hb16 : bad.length = 16) (hne : bad ≠ marker)
    (rest : Bytes) (fuel : Nat) :
    readBlocks cfg codec f marker (blocks.length + (fuel + 1))
        (blocks.flatMap (blockOf codec marker) ++ (blockBytes bad victim.length (codec.compress victim.payload) ++ rest)) =
      (blocks.flatMap Items.values, .error .other) := by
  obtain ⟨_, hlen, hsz, hl63, _, _⟩ := hv
  simp [readBlocks_append hm hc blocks hok _ (fuel + 1), readBlocks_bad_marker hb16 hne _ _ hlen hsz hl63 rest fuel]

/-- an altered magic makes opening fail -/
theorem magic_corrupt (rcfg : Cfg) (m : Bytes) (hm4 : m.length = 4) (hne : m ≠ magic) (rest : Bytes) :
    ∃ e, ∀ fuel, readHeader rcfg fuel (m ++ rest) = .error e := by
  refine ⟨.other, fun fuel => ?_⟩
  unfold readHeader
  rw [takeExact_append' 4 m rest hm4]
  simp [hne]

/-- **cut inside the header**: if opening a file succeeds, the header is a prefix `hdr` of the file
(`file = hdr ++ body`), opening does not depend on the body, and opening any strict prefix of `hdr`
fails - whatever the metadata map looks like (several blocks, negative counts, unknown keys) -/
theorem cut_inside_header (rcfg : Cfg) (fuel : Nat) (file : Bytes) (md : List (Bytes × Bytes)) (marker body : Bytes)
    (h : readHeader rcfg fuel file = .ok (md, marker, body)) :
    ∃ hdr, file = hdr ++ body ∧ (∀ q, readHeader rcfg fuel (hdr ++ q) = .ok (md, marker, q)) ∧
      ∀ p q, hdr = p ++ q → q ≠ [] → ∃ e, readHeader rcfg fuel p = .error e := by
  -- `readHeader` is the framed reader `headerReader` with its result regrouped
  rw [readHeader_eq] at h
  split at h <;> cases h
  next hh =>
  obtain ⟨hdr, hfile, hq⟩ := framed_headerReader rcfg fuel file _ _ hh
  refine ⟨hdr, hfile, fun q => by rw [readHeader_eq, hq q], fun p q hp hne => ?_⟩
  have hex := hq []
  rw [List.append_nil] at hex
  obtain ⟨e, he⟩ := (framed_headerReader rcfg fuel).prefix_error hex hp hne
  exact ⟨e, by rw [readHeader_eq, he]⟩

/-- a varint cut anywhere before its last byte is an end-of-input error, never a shorter number
(this is what makes a two-byte block count cut after its first byte an error) -/
theorem varint_cut_is_eof (n : Int) (p q : Bytes) (h : p ++ q = encLong n) (hq : q ≠ []) :
    decLong p = .error .eof := decLong_prefix_eof n p q h hq

/-! non-vacuity: a two-block file of `long`s, cut one byte into the second block's count -/
example :
    let marker : Bytes := List.replicate 16 7
    let b1 := blockBytes marker 2 [2, 4]
    (readBlocks { lim := 1000 } Codec.null (decode { lim := 1000 } [] 2 .long) marker 5 (b1 ++ [200])).2
      = .error .eof := by decide
example :
    let marker : Bytes := List.replicate 16 7
    let b1 := blockBytes marker 2 [2, 4]
    (readBlocks { lim := 1000 } Codec.null (decode { lim := 1000 } [] 2 .long) marker 5 b1).2 = .clean := by decide

end Avro.C14
