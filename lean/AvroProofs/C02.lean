import AvroModel
import AvroProofs.Lemmas.SpecEncode
import AvroProofs.Lemmas.Prim
/-!
# C02 — binary encoding follows the Avro specification

`Spec.SpecEnc cfg env s v bytes` (AvroModel/Spec/Encoding.lean) is the specification's encoding
written as a relation, independently of the crate's encoder: arithmetic zig-zag, base-128 digits,
**any** sequence of array/map blocks (positive counts, or negative counts followed by a byte
size), logical types on their underlying type.
-/
namespace Avro.C02
open Avro.Spec

/-- the crate's bit-twiddled zig-zag + varint loop computes the specification's arithmetic -/
theorem long_eq_spec (n : Int) (h : i64ok n) : encLong n = Spec.long n := (Spec.long_eq_encLong h).symm

/-- **what the library writes is specification-legal** (this is what an independent decoder
accepts): for every conforming value the encoder succeeds and its bytes are related to the value by
the specification relation. -/
theorem encode_sound (cfg : Cfg) (env : Names) (hl : cfg.lim < 2^63) (s : Schema) (v : Value)
    (hc : Conforms cfg env s v) :
    ∃ enc n, (∀ fuel, n ≤ fuel → encode env fuel s v = .ok enc) ∧ SpecEnc cfg env s v enc :=
  conforms_es hl primFacts hc

/-- **every specification-legal layout is read back**: arrays and maps split over several
blocks, blocks written with a negative count followed by a byte size, any union branch, logical
types — the decoder returns the value and exactly the unread rest. -/
theorem decode_complete (cfg : Cfg) (env : Names) (hl : cfg.lim < 2^63) (h1 : 1 ≤ cfg.szValue) (h2 : 1 ≤ cfg.szEntry)
    (s : Schema) (v : Value) (enc : Bytes) (h : SpecEnc cfg env s v enc) :
    ∃ n, ∀ fuel, n ≤ fuel → ∀ rest, decode cfg env fuel s (enc ++ rest) = .ok (v, rest) :=
  spec_dc hl h1 h2 primFacts h

/-- **every base-128 digit string is read**, not only the shortest one the crate writes: up to ten bytes, value below
2^64, with or without trailing zero digits (`SpecEnc` itself relates a number to its shortest form only) -/
theorem varint_any_digits (ds : List Nat) (last : Nat) (hd : ∀ d ∈ ds, d < 128) (hlast : last < 128)
    (hlen : ds.length + 1 ≤ 10) (hv : varintVal (ds ++ [last]) < 2^64) (rest : Bytes) :
    decodeVar (varintBytes ds last ++ rest) = .ok (varintVal (ds ++ [last]), rest) :=
  decodeVar_digits ds last hd hlast hlen hv rest

/-- **a zero-padded long is read to the same number**: what the crate writes for `n` is a digit string, and the same
digits followed by `k + 1` zero digits (another writer's non-canonical form) are read back as `n` -/
theorem padded_long_read (n : Int) (hn : i64ok n) (k : Nat) (rest : Bytes) :
    ∃ ds last, encLong n = varintBytes ds last ∧
      (ds.length + 1 + (k + 1) ≤ 10 →
        decLong (varintBytes (ds ++ last :: List.replicate k 0) 0 ++ rest) = .ok (n, rest)) := by
  obtain ⟨ds, last, he, hv, hds, hl, _, _⟩ := encodeVar_digits (zig_lt n)
  refine ⟨ds, last, he, ?_⟩
  intro hlen
  have hval : varintVal ((ds ++ last :: List.replicate k 0) ++ [0]) = zig n := by
    have e : (ds ++ last :: List.replicate k 0) ++ [0] = (ds ++ [last]) ++ List.replicate (k + 1) 0 := by
      simp [List.replicate_succ']
    rw [e, varintVal_pad, hv]
  have hall : ∀ d ∈ ds ++ last :: List.replicate k 0, d < 128 := by
    intro d hd
    rcases List.mem_append.mp hd with h | h
    · exact hds d h
    · rcases List.mem_cons.mp h with rfl | h
      · exact hl
      · have := List.eq_of_mem_replicate h; omega
  have := decodeVar_digits (ds ++ last :: List.replicate k 0) 0 hall (by omega)
    (by simp at hlen ⊢; omega) (by rw [hval]; exact zig_lt n) rest
  unfold decLong
  rw [this, hval]
  simp only [zag_zig n hn.1 hn.2]

/-- non-vacuity: `0x82 0x80 0x00` (the digits 2, 0, 0) is read as the long 1, like the canonical `0x02` -/
example : decLong [0x82, 0x80, 0x00] = .ok (1, []) ∧ decLong [0x02] = .ok (1, []) := ⟨by rfl, by rfl⟩

/-! non-vacuity: `[1, 2, 3]` written as a negative-count block of two items (with its byte size)
followed by a positive-count block of one item is specification-legal -/
example : ∃ enc, SpecEnc { lim := 1000 } [] (.array .long) (.array [.long 1, .long 2, .long 3]) enc := by
  have b2 : SpecBlocks { lim := 1000 } [] .long 2 ([.long 3] ++ []) _ :=
    SpecBlocks.pos (cfg := { lim := 1000 }) (env := []) (s := .long) (k := 2) (blk := [.long 3]) (more := [])
      (by simp) (.cons (.long ⟨by decide, by decide⟩) .nil) (by decide) (by decide) .done
  have hsz : (Spec.long 1 ++ (Spec.long 2 ++ [])).length < 2^63 := by
    rw [Spec.long_eq_encLong (n := 1) ⟨by decide, by decide⟩, Spec.long_eq_encLong (n := 2) ⟨by decide, by decide⟩]; decide
  exact ⟨_, .array (SpecBlocks.neg (cfg := { lim := 1000 }) (env := []) (s := .long) (k := 0)
    (blk := [.long 1, .long 2]) (more := [.long 3] ++ [])
    (by simp) (.cons (.long ⟨by decide, by decide⟩) (.cons (.long ⟨by decide, by decide⟩) .nil)) (by decide) (by decide)
    hsz b2)⟩

end Avro.C02
