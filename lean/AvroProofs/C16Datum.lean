import AvroModel
import AvroProofs.C02
import AvroProofs.Lemmas.SerSpec
/-!
# C16 — what the schema-aware serializer writes is exactly one specification-legal datum

`ser_is_spec_datum`: for every serde value of the modelled fragment that meets `SerOk` (what the Rust types
guarantee: integer ranges, valid UTF-8, declared lengths, distinct map keys; plus the size conditions under which a
reader with allocation limit `cfg.lim` has to accept the datum), every schema, every names table, **every target block
size** and every recursion budget: when the serializer succeeds, the bytes it wrote are a specification-legal
encoding (`Spec.SpecEnc`: the relation of C02, written independently of the crate's encoder) of some value under that
schema.  With C02's `decode_complete` the generic decoder therefore reads them back as exactly one datum, leaving
exactly what follows (`ser_decodes_as_one_datum`).

Logical types are inside the statement in the form their Rust types hand them over (`SerOk`): a uuid as its 16 bytes or
its canonical text, a duration as its 12 bytes, a big-decimal as its serialized form, decimals as any byte string of the
right size.  Outside the statement (and covered by the correspondence run and the oracle only): unions other than
`Option`-shaped ones, `u64` and 128-bit integers, flattened structs; that the value read back is the one the Rust value
converts to; the schema-aware deserializer.
-/
namespace Avro.C16
open Avro.Spec

/-- **the bytes are a specification-legal datum**, for every target block size -/
theorem ser_is_spec_datum (cfg : Cfg) (env : Names) (henv : EnvOk env) (hl : cfg.lim < 2^63) (tbs : Option Nat)
    (fuel : Nat) (s : Schema) (x : SerdeVal) (b : Bytes) (n : Nat)
    (hx : SerOk cfg env s x) (hser : serS tbs env fuel s x = .ok (b, n)) (hb : b.length < 2^63) :
    ∃ v, SpecEnc cfg env s v b :=
  ser_spec henv hl tbs fuel s x (b, n) hx hser hb

/-- **…which the generic decoder reads back as exactly one datum**, whatever follows it -/
theorem ser_decodes_as_one_datum (cfg : Cfg) (env : Names) (henv : EnvOk env) (hl : cfg.lim < 2^63)
    (h1 : 1 ≤ cfg.szValue) (h2 : 1 ≤ cfg.szEntry) (tbs : Option Nat)
    (fuel : Nat) (s : Schema) (x : SerdeVal) (b : Bytes) (n : Nat)
    (hx : SerOk cfg env s x) (hser : serS tbs env fuel s x = .ok (b, n)) (hb : b.length < 2^63) :
    ∃ v k, ∀ dfuel, k ≤ dfuel → ∀ rest, decode cfg env dfuel s (b ++ rest) = .ok (v, rest) := by
  obtain ⟨v, hv⟩ := ser_is_spec_datum cfg env henv hl tbs fuel s x b n hx hser hb
  obtain ⟨k, hk⟩ := C02.decode_complete cfg env hl h1 h2 s v b hv
  exact ⟨v, k, hk⟩

/-! non-vacuity: `record R {a: int, xs: array<long>}` handed `xs = [1, 2]` before `a = 3`, with a target block size
of one byte (every item closes a sized block) -/
def exSchema : Schema := .record [82] [({ name := [97] }, .int), ({ name := [120] }, .array .long)]
def exValue : SerdeVal := .struct [82] [([120], some (.seq (some 2) [.i64 1, .i64 2])), ([97], some (.i32 3))]

example : serS (some 1) [] 6 exSchema exValue = .ok ([6, 1, 2, 2, 1, 2, 4, 0], 8) := by rfl

example : SerOk { lim := 1000 } [] exSchema exValue := by
  refine .struct ?_ ?_
  · intro rn rfields hd kv hkv v p ms hv hp hf
    cases hd
    simp only [List.mem_cons, List.not_mem_nil, or_false] at hkv
    rcases hkv with rfl | rfl <;> cases hv
    · cases hp
      cases hf
      refine .seq (.inr rfl) (by decide) (by decide) fun inner _ i hi => ?_
      simp only [List.mem_cons, List.not_mem_nil, or_false] at hi
      rcases hi with rfl | rfl <;> exact .i64 ⟨by decide, by decide⟩
    · cases hp
      cases hf
      exact .i32 ⟨by decide, by decide⟩
  · intro rn rfields hd ms hms d dv hdf _
    cases hd
    simp only [List.mem_cons, List.not_mem_nil, or_false] at hms
    rcases hms with rfl | rfl <;> cases hdf

end Avro.C16
