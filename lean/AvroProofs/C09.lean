import AvroModel
import AvroProofs.Lemmas.Fuel
/-!
# C09 — compatibility verdicts

`canRead` is the model of `Checker::full_match_schemas`.  Proved: every well-formed schema is
fully compatible with itself, `mutual_read` is symmetric, each always-safe evolution step keeps the
verdict `Full`.  Soundness of `Full` with respect to reading is FALSE of the code for several type
pairs (recorded findings); it is proved for the plain scalar fragment.
-/
namespace Avro.C09

theorem Compat.and_comm (a b : Compat) : a.and b = b.and a := by cases a <;> cases b <;> rfl

theorem mutual_symmetric (fuel : Nat) (a b : Schema) : mutualRead fuel a b = mutualRead fuel b a := by
  unfold mutualRead
  cases canRead fuel a b <;> cases canRead fuel b a <;> simp [Compat.and_comm]

/-! ### always-safe evolution steps keep the verdict `Full` -/

/-- numeric promotions and string/bytes -/
theorem promotions_full (f : Nat) :
    canRead (f+1) .int .long = some .full ∧ canRead (f+1) .int .float = some .full ∧
    canRead (f+1) .int .double = some .full ∧ canRead (f+1) .long .float = some .full ∧
    canRead (f+1) .long .double = some .full ∧ canRead (f+1) .float .double = some .full ∧
    canRead (f+1) .string .bytes = some .full ∧ canRead (f+1) .bytes .string = some .full :=
  ⟨rfl, rfl, rfl, rfl, rfl, rfl, rfl, rfl⟩

/-- a reader enum that has every written symbol (symbols added, reordered) is fully compatible -/
theorem enum_symbols_added (wsyms rsyms : List Bytes) (rd : Option Bytes) (h : ∀ s ∈ wsyms, s ∈ rsyms) :
    enumVerdict wsyms rsyms rd = some .full := by
  unfold enumVerdict
  split
  · rfl
  · rw [if_pos (by simpa using h)]

/-- a reader union one of whose branches fully reads the (non-union) writer type — e.g. a branch
was added around it — is fully compatible -/
theorem reader_union_branch_added (rs : List (Option Compat)) (h : some Compat.full ∈ rs) :
    anyUnionVerdict rs = some .full := by
  have : rs.any (· == some .full) = true := List.any_eq_true.mpr ⟨_, h, beq_self_eq_true _⟩
  exact if_pos this

/-- reader union against writer union: every written branch has a reader branch that fully reads
it (branches added to / reordered in the reader) -/
theorem reader_union_superset (rows : List (List (Option Compat))) (h : ∀ row ∈ rows, some Compat.full ∈ row) :
    unionUnionVerdict rows = some .full := by
  have : rows.all (fun row => row.any (· == some .full)) = true :=
    List.all_eq_true.mpr fun row hr => List.any_eq_true.mpr ⟨_, h row hr, beq_self_eq_true _⟩
  exact if_pos this

/-- records: if every reader field either reads a written field with verdict `Full` or is new and
has a default, the record is fully compatible — whatever the order of the reader's fields and
whatever else was written (fields added with a default, removed, reordered) -/
theorem record_safe (go : Schema → Schema → Option Compat) (wfields : List (FieldMeta × Schema)) :
    ∀ (rfields : List (FieldMeta × Schema)),
      (∀ x ∈ rfields,
        (∃ wm ws, findWriterField wfields x.1 = some (wm, ws) ∧ go ws x.2 = some .full) ∨
        (findWriterField wfields x.1 = none ∧ x.1.default.isSome = true)) →
      recordVerdict go wfields rfields .full = some .full
  | [], _ => rfl
  | (m, rs) :: rest, h => by
    obtain ⟨hm, hrest⟩ := List.forall_mem_cons.mp h
    have ih := record_safe go wfields rest hrest
    simp only [recordVerdict]
    rcases hm with ⟨wm, ws, hf, hg⟩ | ⟨hf, hd⟩
    · simp only [hf, hg]; exact ih
    · simp only [hf, Option.isNone_eq_false_iff.mpr hd]; exact ih

/-! ### every schema is fully compatible with itself

The composite arms are the evolution steps above with nothing changed. -/

theorem unqual_self (w : Schema) :
    (match w.cname?, w.cname? with
     | some a, some b => unqual a != unqual b
     | _, _ => false) = false := by
  cases w.cname? <;> simp

theorem find_self (fields : List (FieldMeta × Schema)) (m : FieldMeta) (s : Schema)
    (hmem : (m, s) ∈ fields) (hnd : (fields.map (fun f => f.1.name)).Nodup) :
    findWriterField fields m = some (m, s) := by
  have : fields.find? (fun wf => wf.1.name == m.name) = some (m, s) := by
    induction fields with
    | nil => cases hmem
    | cons hd tl ih =>
      obtain ⟨hhd, htl⟩ := List.nodup_cons.mp hnd
      rcases List.mem_cons.mp hmem with rfl | h
      · simp
      · have hne : hd.1.name ≠ m.name := fun e => hhd (List.mem_map.mpr ⟨(m, s), h, e.symm⟩)
        simpa [hne] using ih h htl
  simp [findWriterField, this]

mutual
theorem self_full : ∀ (s : Schema), wfS s = true → ∃ n, ∀ fuel, n ≤ fuel → canRead fuel s s = some .full
  | .null, _ | .boolean, _ | .int, _ | .long, _ | .float, _ | .double, _ | .bytes, _ | .string, _
  | .date, _ | .timeMillis, _ | .longL _, _ | .bigDecimal, _ | .uuidString, _ | .uuidBytes, _ =>
    Ev.of_succ fun f => rfl
  | .fixed _ _, _ | .uuidFixed _ _, _ | .duration _ _, _ | .ref _, _ =>
    Ev.of_succ fun f => by
      simp [canRead, Schema.cname?, Schema.isIntLike, Schema.isLongLike, Schema.isBytesLike, Schema.isFloat,
        Schema.isDouble, Schema.isUuid, Schema.fixedSize?]
  | .decimal _ _ inner, _ => Ev.of_succ fun f => by cases inner <;> simp [canRead, Schema.cname?]
  | .enum _ syms d, _ => Ev.of_succ fun f => by
    simp [canRead, Schema.cname?, enum_symbols_added syms syms d fun _ h => h]
  | .array s, h | .map s, h => Ev.succ (self_full s h) fun f H => H
  | .union bs, h => by
    simp only [wfS, Bool.and_eq_true] at h
    refine Ev.succ (self_full_list bs h.2) fun f H => ?_
    simp only [canRead, Schema.cname?]
    refine reader_union_superset _ fun row hr => ?_
    obtain ⟨b, hb, rfl⟩ := List.mem_map.mp hr
    exact List.mem_map.mpr ⟨b, hb, H b hb⟩
  | .record _ fields, h => by
    simp only [wfS, Bool.and_eq_true, decide_eq_true_eq] at h
    refine Ev.succ (self_full_fields fields h.2) fun f H => ?_
    simp only [canRead, Schema.cname?, bne_self_eq_false, Bool.false_eq_true, if_false]
    exact record_safe (canRead f) fields fields fun x hx => .inl ⟨x.1, x.2, find_self fields x.1 x.2 hx h.1, H x hx⟩

theorem self_full_list : ∀ (bs : List Schema), wfList bs = true →
    ∃ n, ∀ fuel, n ≤ fuel → ∀ b ∈ bs, canRead fuel b b = some .full
  | [], _ => Ev.of_forall fun _ b hb => by cases hb
  | s :: rest, h => by
    simp only [wfList, Bool.and_eq_true] at h
    exact (Ev.and (self_full s h.1) (self_full_list rest h.2)).mono fun f ⟨H1, H2⟩ =>
      List.forall_mem_cons.mpr ⟨H1, H2⟩

theorem self_full_fields : ∀ (fs : List (FieldMeta × Schema)), wfFields fs = true →
    ∃ n, ∀ fuel, n ≤ fuel → ∀ x ∈ fs, canRead fuel x.2 x.2 = some .full
  | [], _ => Ev.of_forall fun _ b hb => by cases hb
  | (m, s) :: rest, h => by
    simp only [wfFields, Bool.and_eq_true] at h
    exact (Ev.and (self_full s h.1) (self_full_fields rest h.2)).mono fun f ⟨H1, H2⟩ =>
      List.forall_mem_cons.mpr ⟨H1, H2⟩
end

/-! ### soundness of `Full` for the plain scalar types -/

def plainScalar : Schema → Bool
  | .null | .boolean | .int | .long | .float | .double => true
  | _ => false

theorem plainScalar_cases {s : Schema} (h : plainScalar s = true) :
    s = .null ∨ s = .boolean ∨ s = .int ∨ s = .long ∨ s = .float ∨ s = .double := by
  unfold plainScalar at h
  split at h <;> simp at h ⊢

/-- for null / boolean / int / long / float / double on both sides, a `Full` verdict means that
every value of the writer type resolves against the reader type (the general statement is false
of the code — see the known findings) -/
theorem full_sound_scalars_partial (fo : FloatOps) (cfg : Cfg) (env : Names) (f g : Nat) (w r : Schema)
    (hw : plainScalar w = true) (hr : plainScalar r = true)
    (hfull : canRead (f+1) w r = some .full) (v : Value) (hc : Conforms cfg env w v) :
    ∃ v', resolve fo cfg env (g+1) r v = .ok v' := by
  -- 36 pairs: where the verdict is `Full` (the other pairs go with `hfull`), the value resolves by computation
  obtain rfl | rfl | rfl | rfl | rfl | rfl := plainScalar_cases hw <;> cases hc <;>
  obtain rfl | rfl | rfl | rfl | rfl | rfl := plainScalar_cases hr <;>
  cases hfull <;> exact ⟨_, rfl⟩

/-! ### witnesses: `Full` is not sound in general, and a safe reorder can be reported incompatible
(the same inputs fail on the crate: `known-findings.json`) -/

/-- `date` → `float`: verdict Full, but no `date` value resolves against `float` -/
theorem full_unsound_logical_to_float (fo : FloatOps) (cfg : Cfg) (n : Int) :
    canRead 2 .date .float = some .full ∧ resolve fo cfg [] 2 .float (.date n) = .error .mismatch := by
  exact ⟨rfl, rfl⟩

/-- `bytes` → `string`: verdict Full, but bytes that are not UTF-8 do not resolve -/
theorem full_unsound_bytes_to_string (fo : FloatOps) (cfg : Cfg) :
    canRead 2 .bytes .string = some .full ∧ resolve fo cfg [] 2 .string (.bytes [0xff]) = .error .badUtf8 := by
  refine ⟨by rfl, by rfl⟩

/-- `string` → `uuid`: verdict Full, but a string that is no UUID does not resolve -/
theorem full_unsound_string_to_uuid (fo : FloatOps) (cfg : Cfg) :
    canRead 2 .string .uuidString = some .full ∧ resolve fo cfg [] 2 .uuidString (.string [97]) = .error .badUuid := by
  refine ⟨by rfl, by rfl⟩

/-- reordering two fields when the first defines a named type the second refers to: the reader
then has the definition where the writer has the reference, and the checker says incompatible -/
theorem reorder_with_named_type_incompatible :
    let e : Schema := .enum [69] [[65], [66]] none
    let w : Schema := .record [82] [({ name := [101] }, e), ({ name := [102] }, .ref [69])]
    let r : Schema := .record [82] [({ name := [102] }, e), ({ name := [101] }, .ref [69])]
    canRead 5 w r = none := by
  rfl

end Avro.C09
