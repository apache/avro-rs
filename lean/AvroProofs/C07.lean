import AvroModel
import AvroProofs.Lemmas.SpecEncode
import AvroProofs.Lemmas.Validates
/-!
# C07 — accepted values are written readably, rejected values write nothing

`rejected_writes_nothing` is the second half of the property at full strength.  The first half is
**false of the code** for several non-canonical forms validation accepts (`not_written_*`,
`written_unreadably_*`, `written_differently_*` below are kernel-checked witnesses, replayed on the implementation by
`./check C07` and recorded in `known-findings.json`); what is proved is the part for values in the
canonical representation (`accepted_written_readably_partial`).
-/
namespace Avro.C07

/-- **Rejected values write nothing** — on all three validating paths, for every schema, value and
writer state: the datum writer returns an error (and has produced no bytes to hand on), the
container writer's state (pending block, counts, output, header flag) is unchanged and the call
returns an error, the single-object writer delivers no byte, returns an error and keeps its
header buffer. -/
theorem rejected_writes_nothing (fo : FloatOps) (cfg : Cfg) (env : Names) (fuel : Nat) (s : Schema) (v : Value)
    (hrej : validate fo cfg env fuel s v = false) :
    datumWrite fo cfg env fuel s v = .error .validation ∧
    (∀ (wcfg : WCfg) (st : WState),
      Writer.step wcfg st (appendOp fo cfg env fuel s v) = (st, none)) ∧
    (∀ (w : SoWriter) (sinkOk : Bool),
      (soWrite fo cfg env fuel s v w sinkOk).2.1 = [] ∧ (soWrite fo cfg env fuel s v w sinkOk).2.2 = none ∧
      (soWrite fo cfg env fuel s v w sinkOk).1.buffer = w.buffer) := by
  refine ⟨by simp [datumWrite, hrej], ?_, ?_⟩
  · intro wcfg st; simp [appendOp, hrej, Writer.step]
  · intro w sinkOk
    simp only [soWrite, hrej, Bool.false_eq_true, if_false, SoWriter.write]
    split <;> simp

/-- **Accepted and written readably (canonical fragment).**  (`10 ≤ buffer.length ≤ 20`: `HEADER_LENGTH_RANGE`, the state
check of `write_value_ref`.)  Every value in the schema's canonical
representation is accepted by validation, and each validating path writes exactly the bytes that
decode to the value again (followed by any tail): the datum writer returns them, the container
writer appends them to its pending block, the single-object writer emits its header followed by
them. -/
theorem accepted_written_readably_partial (fo : FloatOps) (cfg : Cfg) (env : Names) (hl : cfg.lim < 2^63)
    (s : Schema) (v : Value) (hc : Conforms cfg env s v) :
    ∃ bs n, ∀ fuel, n ≤ fuel →
      validate fo cfg env fuel s v = true ∧
      datumWrite fo cfg env fuel s v = .ok bs ∧
      appendOp fo cfg env fuel s v = .append bs ∧
      (∀ (w : SoWriter), 10 ≤ w.buffer.length → w.buffer.length ≤ 20 →
        (soWrite fo cfg env fuel s v w true).2.1 = w.buffer ++ bs) ∧
      ∀ rest, decode cfg env fuel s (bs ++ rest) = .ok (v, rest) := by
  obtain ⟨bs, H1⟩ := conforms_rt hl hc
  refine ⟨bs, (Ev.and H1 (conforms_vok (fo := fo) hc)).mono fun fuel ⟨⟨he, hd⟩, hv⟩ => ?_⟩
  refine ⟨hv, by simp [datumWrite, hv, he], by simp [appendOp, hv, he], fun w h10 h20 => ?_, hd⟩
  have : ¬ (w.buffer.length < 10 ∨ 20 < w.buffer.length) := by omega
  simp [soWrite, hv, he, SoWriter.write, this]

/-! ### witnesses: the first half does not hold for every accepted value (on the model; the same
inputs fail on the implementation, see `known-findings.json`) -/

def cfg0 : Cfg := { lim := 1024 }

/-- a `float` under a `double` schema is accepted and written as 4 bytes, which do not decode -/
theorem written_unreadably_float_for_double (fo : FloatOps) :
    validate fo cfg0 [] 5 .double (.float 0x3fc00000) = true ∧
    datumWrite fo cfg0 [] 5 .double (.float 0x3fc00000) = .ok [0, 0, 0xc0, 0x3f] ∧
    decode cfg0 [] 5 .double [0, 0, 0xc0, 0x3f] = .error .eof := by
  refine ⟨by rfl, by rfl, by rfl⟩

/-- a map under a record schema is accepted and not written -/
theorem not_written_map_for_record (fo : FloatOps) :
    let s : Schema := .record [82] [({ name := [97] }, .int)]
    validate fo cfg0 [] 5 s (.map [([97], .int 1)]) = true ∧
    ∃ e, datumWrite fo cfg0 [] 5 s (.map [([97], .int 1)]) = .error e := by
  refine ⟨by rfl, ⟨.mismatch, by rfl⟩⟩

/-- a bare `float` under `["null","float"]` is accepted and written without its branch index, so the
bytes decode as the null branch and leave a tail -/
theorem written_differently_bare_value_in_union (fo : FloatOps) :
    let s : Schema := .union [.null, .float]
    validate fo cfg0 [] 5 s (.float 0x4f000000) = true ∧
    datumWrite fo cfg0 [] 5 s (.float 0x4f000000) = .ok [0, 0, 0, 0x4f] ∧
    decode cfg0 [] 5 s [0, 0, 0, 0x4f] = .ok (.union 0 .null, [0, 0, 0x4f]) := by
  refine ⟨by rfl, by rfl, by rfl⟩

/-- a bare string under `["null","string"]` is accepted and not written -/
theorem not_written_bare_value_in_union (fo : FloatOps) :
    let s : Schema := .union [.null, .string]
    validate fo cfg0 [] 5 s (.string [97]) = true ∧
    ∃ e, datumWrite fo cfg0 [] 5 s (.string [97]) = .error e := by
  refine ⟨by rfl, ⟨.mismatch, by rfl⟩⟩

/-- a record value without its nullable field is accepted and not written -/
theorem not_written_nullable_field_left_out (fo : FloatOps) :
    let s : Schema := .record [82] [({ name := [97] }, .int), ({ name := [98] }, .union [.null, .int])]
    validate fo cfg0 [] 5 s (.record [([97], .int 1)]) = true ∧
    ∃ e, datumWrite fo cfg0 [] 5 s (.record [([97], .int 1)]) = .error e := by
  refine ⟨by rfl, ⟨.mismatch, by rfl⟩⟩

/-- bytes under a decimal schema are accepted and not written -/
theorem not_written_bytes_for_decimal (fo : FloatOps) :
    let s : Schema := .decimal 4 1 .bytes
    validate fo cfg0 [] 5 s (.bytes [1, 2]) = true ∧
    ∃ e, datumWrite fo cfg0 [] 5 s (.bytes [1, 2]) = .error e := by
  refine ⟨by rfl, ⟨.mismatch, by rfl⟩⟩

/-- a `fixed` value under a bytes-backed decimal is accepted and written without its length -/
theorem written_unreadably_fixed_for_decimal (fo : FloatOps) :
    let s : Schema := .decimal 4 1 .bytes
    validate fo cfg0 [] 5 s (.fixed 2 [9, 9]) = true ∧
    datumWrite fo cfg0 [] 5 s (.fixed 2 [9, 9]) = .ok [9, 9] ∧
    ∃ e, decode cfg0 [] 5 s [9, 9] = .error e := by
  refine ⟨by rfl, by rfl, ⟨.negLen, by rfl⟩⟩

/-- `Value::Fixed(n, bytes)` whose two parts disagree is rejected under every schema (it used to
be validated by `n` alone and written by `bytes` alone — repaired, see `known-findings.json`) -/
theorem inconsistent_fixed_rejected (fo : FloatOps) (cfg : Cfg) (env : Names) (n : Nat) (b : Bytes) (h : b.length ≠ n) :
    ∀ (fuel : Nat) (s : Schema), validate fo cfg env fuel s (.fixed n b) = false := by
  intro fuel
  induction fuel with
  | zero => intro s; rfl
  | succ f ih =>
    intro s
    unfold validate
    split
    · split
      · exact ih _
      · rfl
    · simp [fixedInconsistent, h]

/-- an enum value whose index is out of range is accepted when the schema has a default, and the
index is written as it is -/
theorem written_unreadably_enum_index (fo : FloatOps) :
    let s : Schema := .enum [69] [[65], [66]] (some [65])
    validate fo cfg0 [] 5 s (.enum 5 [90]) = true ∧
    datumWrite fo cfg0 [] 5 s (.enum 5 [90]) = .ok [10] ∧
    ∃ e, decode cfg0 [] 5 s [10] = .error e := by
  refine ⟨by rfl, by rfl, ⟨.badIndex, by rfl⟩⟩

/-- a record value without a REQUIRED field is accepted as long as it has as many fields as the
schema has non-nullable ones, and is not written -/
theorem not_written_required_field_left_out (fo : FloatOps) :
    let s : Schema := .record [82] [({ name := [97] }, .union [.null, .int]), ({ name := [98] }, .int)]
    validate fo cfg0 [] 5 s (.record [([97], .union 0 .null)]) = true ∧
    ∃ e, datumWrite fo cfg0 [] 5 s (.record [([97], .union 0 .null)]) = .error e := by
  refine ⟨by rfl, ⟨.mismatch, by rfl⟩⟩

end Avro.C07
