import AvroModel
import AvroProofs.Lemmas.SpecEncode
import AvroProofs.Lemmas.Prim
/-!
# C01 — datum round-trip

The property theorems (the lemmas behind them are under `AvroProofs/Lemmas`).  Every statement is about
the model in `AvroModel/*`; the tie to `/repo` is the correspondence run of `./check C01`.

`cfg.lim < 2^63`, here and in every theorem about the datum codec: lengths travel as `i64` on the wire, so under a larger
limit a length could conform that the encoder cannot write.
-/
namespace Avro.C01

/-- zig-zag is invertible on every 64-bit pattern (`zig_i64` / `zag_i64` bit twiddling as written). -/
theorem zag_zig_bits (n : BitVec 64) : zagBV (zigBV n) = n := zag_zig_bv n

/-- `zag_i64 ∘ zig_i64 = id` on every `i64`. -/
theorem zag_zig (n : Int) (h : i64ok n) : zag (zig n) = n := Avro.zag_zig n h.1 h.2

/-- `decode_variable (encode_variable z ++ rest) = (z, rest)` for every `u64`, every tail. -/
theorem decodeVar_encodeVar (z : Nat) (hz : z < 2^64) (rest : Bytes) :
    decodeVar (encodeVar z ++ rest) = .ok (z, rest) := Avro.decodeVar_encodeVar z hz rest

/-- **Main theorem.** For every names table, schema and conforming value (any nesting, any size
within the allocation limit), encoding succeeds and decoding the produced bytes followed by *any*
tail returns exactly the value and exactly the tail — for every sufficiently large recursion
budget (`fuel` only models the thread stack, which the property leaves out). -/
theorem decode_encode (cfg : Cfg) (env : Names) (hl : cfg.lim < 2^63) (s : Schema) (v : Value)
    (hc : Conforms cfg env s v) :
    ∃ bs n, ∀ fuel, n ≤ fuel →
      encode env fuel s v = .ok bs ∧
      ∀ rest, decode cfg env fuel s (bs ++ rest) = .ok (v, rest) :=
  conforms_rt hl hc

/-- Datums can be concatenated and read back one after another. -/
theorem decode_concat (cfg : Cfg) (env : Names) (hl : cfg.lim < 2^63) (s₁ s₂ : Schema) (v₁ v₂ : Value)
    (h₁ : Conforms cfg env s₁ v₁) (h₂ : Conforms cfg env s₂ v₂) :
    ∃ b₁ b₂ n, ∀ fuel, n ≤ fuel → ∀ rest,
      encode env fuel s₁ v₁ = .ok b₁ ∧ encode env fuel s₂ v₂ = .ok b₂ ∧
      decode cfg env fuel s₁ (b₁ ++ b₂ ++ rest) = .ok (v₁, b₂ ++ rest) ∧
      decode cfg env fuel s₂ (b₂ ++ rest) = .ok (v₂, rest) := by
  obtain ⟨b₁, H₁⟩ := conforms_rt hl h₁
  obtain ⟨b₂, H₂⟩ := conforms_rt hl h₂
  exact ⟨b₁, b₂, (Ev.and H₁ H₂).mono fun fuel ⟨⟨e₁, d₁⟩, ⟨e₂, d₂⟩⟩ rest =>
    ⟨e₁, e₂, by rw [List.append_assoc]; exact d₁ _, d₂ rest⟩⟩

/-! ### non-vacuity: concrete, non-trivial conforming values -/

/-- `record L { v: long, next: ["null", L] }` -/
def listSchema : Schema :=
  .record [76] [({ name := [118] }, .long), ({ name := [110] }, .union [.null, .ref [76]])]
def listEnv : Names := [([76], listSchema)]
def cfg0 : Cfg := { lim := 1024 }

/-- the two-element list `{v: i64::MIN, next: {v: 64, next: null}}` conforms. -/
example : Conforms cfg0 listEnv (.ref [76])
    (.record [([118], .long (-9223372036854775808)),
              ([110], .union 1 (.record [([118], .long 64), ([110], .union 0 .null)]))]) := by
  refine .ref (s := listSchema) rfl trivial ?_
  refine .record (.cons (.long ⟨by decide, by decide⟩) (.cons (.union (b := .ref [76]) rfl (by decide) ?_) .nil)) (by decide)
  refine .ref (s := listSchema) rfl trivial ?_
  exact .record (.cons (.long ⟨by decide, by decide⟩) (.cons (.union (b := .null) rfl (by decide) .null) .nil)) (by decide)

/-- a NaN payload and a negative zero in an array inside a map inside a union: hypotheses of `decode_encode` are satisfiable. -/
example : Conforms cfg0 [] (.union [.null, .map (.array .double)])
    (.union 1 (.map [([107], .array [.double 0x7FF4000000000001, .double 0x8000000000000000])])) := by
  refine .union (b := .map (.array .double)) rfl (by decide) ?_
  refine .map (.cons (by decide) (by decide) ?_ .nil) (by decide) (by decide) (by decide)
  exact .array (.cons (.double _) (.cons (.double _) .nil)) (by decide) (by decide)

/-! ### conformance of logical values, from the proved facts about the modelled primitives

`Conforms` carries the round trips of the modelled num-bigint / uuid primitives as premises of its
decimal, big-decimal and uuid-string constructors.  `AvroProofs/Lemmas/Prim.lean` proves them for
every number and every 16-byte uuid, so these values conform outright: -/

/-- the width in bytes a decimal needs: `to_signed_bytes_be().len()`, but 0 for zero, which the model's `signExtend`
starts from the empty byte string -/
def decimalWidth (i : Int) : Nat := if i = 0 then 0 else minWidth i

/-- every decimal whose unscaled number fits the declared width conforms (bytes-backed) -/
theorem conforms_decimal_bytes (cfg : Cfg) (env : Names) (p sc : Nat) (i : Int) (len : Nat)
    (hfit : decimalWidth i ≤ len) (hlim : len ≤ cfg.lim) :
    Conforms cfg env (.decimal p sc .bytes) (.decimal i len) := by
  obtain ⟨b, hs, hl, hv⟩ := signExtend_ok i len hfit
  subst hl
  exact .decimalBytes hs hv hlim

/-- every decimal whose unscaled number fits the size of the fixed conforms (fixed-backed) -/
theorem conforms_decimal_fixed (cfg : Cfg) (env : Names) (p sc : Nat) (name : Bytes) (i : Int) (size : Nat)
    (hfit : decimalWidth i ≤ size) (hlim : size ≤ cfg.lim) :
    Conforms cfg env (.decimal p sc (.fixed name size)) (.decimal i size) := by
  obtain ⟨b, hs, hl, hv⟩ := signExtend_ok i size hfit
  subst hl
  exact .decimalFixed hs hv hlim

/-- every big decimal within the allocation limit conforms -/
theorem conforms_bigDecimal (cfg : Cfg) (env : Names) (u sc : Int) (hsc : i64ok sc)
    (hlim : (encBytes (toSignedBE u) ++ encLong sc).length ≤ cfg.lim) :
    Conforms cfg env .bigDecimal (.bigDecimal u sc) :=
  .bigDecimal (fromSignedBE_toSignedBE u) hsc hlim

/-- every uuid conforms to the string-backed uuid schema -/
theorem conforms_uuidString (cfg : Cfg) (env : Names) (b : Bytes) (hb : b.length = 16) (hlim : 36 ≤ cfg.lim) :
    Conforms cfg env .uuidString (.uuid b) := by
  obtain ⟨h1, h2, h3⟩ := uuid_text b hb
  exact .uuidString h1 h2 (by omega)

/-- so: every decimal that fits its width round-trips, whatever its sign and magnitude -/
theorem decimal_roundtrip (cfg : Cfg) (env : Names) (hl : cfg.lim < 2^63) (p sc : Nat) (i : Int) (len : Nat)
    (hfit : decimalWidth i ≤ len) (hlim : len ≤ cfg.lim) :
    ∃ bs n, ∀ fuel, n ≤ fuel →
      encode env fuel (.decimal p sc .bytes) (.decimal i len) = .ok bs ∧
      ∀ rest, decode cfg env fuel (.decimal p sc .bytes) (bs ++ rest) = .ok (.decimal i len, rest) :=
  decode_encode cfg env hl _ _ (conforms_decimal_bytes cfg env p sc i len hfit hlim)

/-- non-vacuity: -129 needs two bytes and conforms in a three-byte slot -/
example : decimalWidth (-129) = 2 := by decide
example : Conforms cfg0 [] (.decimal 5 2 .bytes) (.decimal (-129) 3) :=
  conforms_decimal_bytes cfg0 [] 5 2 (-129) 3 (by decide) (by decide)

end Avro.C01
