import AvroModel
import AvroProofs.Lemmas.ParseWf
/-!
# C11 — the parser accepts only well-formed schemas (and is total)

`parseJ` is a total function (every Lean function is), so "never panics or hangs" holds of the
model by construction; the tie to the crate is the correspondence run on arbitrary JSON and mutated
schemas.  Proved here: every accepted schema is well formed, for every input and every recursion
budget (`wfP`, defined in `Lemmas/ParseWf.lean`), and what "well formed" implies in readable terms.  NOT part of `wfP` (false of the code, see
`known-findings.json`): uniqueness of full names, validity of a decimal's precision for its fixed
size.
-/
namespace Avro.C11

/-- **Main theorem.** Whatever JSON value is given and whatever the recursion budget, a schema the
parser accepts is well formed. -/
theorem parse_wf (dflt : DfltFn) (fuel : Nat) (j : Json) (s : PSchema) (h : parseTop dflt fuel j = some s) :
    wfP s = true := by
  obtain ⟨r, hr, rfl⟩ := Option.map_eq_some_iff.mp h
  exact (parseJ_good dflt fuel {} _ _ ⟨nofun, nofun⟩ _ hr).1

/-- every name the parser builds matches the grammar: the name part is an identifier and the
namespace, when there is one, is a non-empty dotted sequence of identifiers -/
theorem names_match_grammar (s : Bytes) (e : Option Bytes) (n : PName) (h : PName.make s e = some n) :
    isIdent n.name = true ∧ ∀ ns, n.ns = some ns → ns ≠ [] ∧ isNamespace ns = true := by
  have := make_ok h
  unfold PName.ok at this
  simp only [Bool.and_eq_true] at this
  refine ⟨this.1, fun ns hns => ?_⟩
  simpa only [hns, Bool.and_eq_true, Bool.not_eq_true', List.isEmpty_eq_false_iff] using this.2

/-- two branches of a union are of the same branch type when both are named alike, or both are
unnamed and of the same base kind -/
def sameBranchType (a b : PSchema) : Prop :=
  match a.pname?, b.pname? with
  | some x, some y => x = y
  | none, none => a.baseKind = b.baseKind
  | _, _ => False

theorem sameBranchType_iff {a b : PSchema} :
    sameBranchType a b ↔ a.pname? = b.pname? ∧ (a.pname? = none → a.baseKind = b.baseKind) := by
  unfold sameBranchType
  cases a.pname? <;> cases b.pname? <;> simp

/-- only `union` itself has base kind `union`, and it has no name -/
theorem named_ne_union {b : PSchema} {n : PName} (hn : b.pname? = some n) : b.baseKind ≠ .union := by
  intro hk
  unfold PSchema.pname? at hn
  split at hn <;> cases hn <;> cases hk

/-- `names` / `kinds`: the names and the unnamed base kinds of the branches already seen -/
theorem unionNew_ok (bs : List PSchema) (names : List PName) (kinds : List BaseKind) :
    Yields (unionNew bs names kinds) fun _ =>
      (∀ b ∈ bs, (∀ n, b.pname? = some n → n ∉ names) ∧ (b.pname? = none → b.baseKind ≠ .union ∧ b.baseKind ∉ kinds)) ∧
        bs.Pairwise (fun a b => ¬ sameBranchType a b) := by
  fun_induction unionNew bs names kinds <;> try exact .none
  next => exact .some ⟨nofun, .nil⟩
  next s rest names kinds n hn hc ih =>
    refine Yields.imp ih fun _ ⟨ih1, ih2⟩ => ?_
    refine ⟨List.forall_mem_cons.mpr ⟨⟨fun m hm => ?_, fun hm => ?_⟩, fun b hb => ?_⟩, .cons (fun b hb hs => ?_) ih2⟩
    · cases hn.symm.trans hm
      simpa only [List.contains_iff_mem] using hc
    · cases hn.symm.trans hm
    · exact ⟨fun m hm hmem => (ih1 b hb).1 m hm (.tail _ hmem), (ih1 b hb).2⟩
    · exact (ih1 b hb).1 n ((sameBranchType_iff.mp hs).1 ▸ hn) (.head _)
  next s rest names kinds hn _ hu hk ih =>
    refine Yields.imp ih fun _ ⟨ih1, ih2⟩ => ?_
    refine ⟨List.forall_mem_cons.mpr ⟨⟨fun m hm => ?_, fun _ => ⟨?_, ?_⟩⟩, fun b hb => ?_⟩, .cons (fun b hb hs => ?_) ih2⟩
    · cases hn.symm.trans hm
    · simpa only [beq_iff_eq] using hu
    · simpa only [List.contains_iff_mem] using hk
    · exact ⟨(ih1 b hb).1, fun hm => ⟨((ih1 b hb).2 hm).1, fun hmem => ((ih1 b hb).2 hm).2 (.tail _ hmem)⟩⟩
    · obtain ⟨hp, hk⟩ := sameBranchType_iff.mp hs
      exact ((ih1 b hb).2 (hp ▸ hn)).2 (hk hn ▸ .head _)

/-- an accepted union contains no union directly, and no two branches of the same branch type
(equal names, or both unnamed with the same base kind) -/
theorem union_rules (bs : List PSchema) (h : wfP (.union bs) = true) :
    (∀ b ∈ bs, b.baseKind ≠ .union) ∧ bs.Pairwise (fun a b => ¬ sameBranchType a b) := by
  obtain ⟨h1, h2⟩ := unionNew_ok bs [] [] _ (wfP_union.mp h).1
  refine ⟨fun b hb => ?_, h2⟩
  cases hn : b.pname? with
  | none => exact ((h1 b hb).2 hn).1
  | some n => exact named_ne_union hn

/-- an accepted record has a well-formed name, field names that are identifiers and pairwise
distinct, and well-formed field types -/
theorem record_rules (n : PName) (al : Option (List PName)) (doc : Option Bytes) (fields : List (FieldHdr × PSchema))
    (attrs : Attrs) (h : wfP (.record n al doc fields attrs) = true) :
    n.ok = true ∧ (fields.map (fun f => f.1.name)).Nodup ∧ wfPFields fields = true :=
  have ⟨hn, hl, hw⟩ := wfP_record.mp h
  ⟨hn, fieldLookupOk_nodup hl, hw⟩

/-- an accepted enum has a well-formed name, symbols that are identifiers and pairwise distinct,
and a default (if any) that is one of the symbols -/
theorem enum_rules (n : PName) (al : Option (List PName)) (doc : Option Bytes) (syms : List Bytes) (d : Option Bytes)
    (attrs : Attrs) (h : wfP (.enum n al doc syms d attrs) = true) :
    n.ok = true ∧ (∀ s ∈ syms, isIdent s = true) ∧ syms.Nodup ∧ (∀ x, d = some x → x ∈ syms) :=
  have ⟨hn, hi, hd, hm⟩ := wfP_enum.mp h
  ⟨hn, List.all_eq_true.mp hi, hd, fun x hx => List.contains_iff_mem.mp (by subst hx; exact hm)⟩

/-- an accepted decimal has `1 ≤ precision` and `scale ≤ precision` -/
theorem decimal_rules (p sc : Nat) (inner : Option FixedP) (h : wfP (.decimal p sc inner) = true) : 1 ≤ p ∧ sc ≤ p := by
  simp only [wfP, Bool.and_eq_true, decide_eq_true_eq] at h
  exact h.1

end Avro.C11
