import AvroModel
import AvroProofs.Lemmas.Container
/-!
# C03 — container files return exactly the appended values for any writer history

`Writer.step` is the model of `writer::Writer` over a perfect sink; `readBlocks` the model of the
reader's block loop.  The abstract specification is the simplest possible one: *a log of the
encodings whose append returned `Ok` since the last `reset`* (`logStep`).  The vocabulary of the statements (`Inv`,
`Ghost`, `logStep`, `RunOk`, `appended`) is defined in `Lemmas/Container.lean`.
-/
namespace Avro.C03

/-- An append that returns an error leaves no trace: the pending block and its value count are
untouched and the output changes at most by the file header. -/
theorem failed_append_no_trace (cfg : WCfg) (st : WState) (op : WOp)
    (hop : op = .appendEncodeError ∨ op = .appendRejected) :
    let st' := (Writer.step cfg st op).1
    (Writer.step cfg st op).2 = none ∧ st'.buffer = st.buffer ∧ st'.numValues = st.numValues ∧
    (st'.sink = st.sink ∨ (st.hasHeader = false ∧ st'.sink = st.sink ++ headerBytes cfg st)) := by
  rcases hop with rfl | rfl
  · cases hh : st.hasHeader <;> simp [Writer.step, writeHeader, hh]
  · simp [Writer.step]

/-- **Refinement.** For every history (any interleaving of appends, failing appends, flushes,
metadata, resets, finishing and reopening; `RunOk`: a reopen only on an output that has its header and nothing pending), the writer's state is explained by a ghost layout
`header ++ blocks`, a pending block, and the log of successfully appended encodings — nothing is
lost, duplicated or reordered across block boundaries. -/
theorem history_layout (cfg : WCfg) (marker : Bytes) (ops : List WOp)
    (hok : RunOk cfg { marker := marker } ops) :
    ∃ g : Ghost, Inv cfg (Writer.run cfg { marker := marker } ops) g ∧
      g.blocks.flatten ++ g.pending = ops.foldl logStep [] :=
  refines_run ops (refines_init cfg marker) hok

/-- **Main theorem.** After any history followed by finishing the writer (`into_inner` or drop),
the output is `header ++ body` and reading `body` block by block yields exactly the values whose
append returned `Ok` since the last reset, in order, and ends cleanly.  `val` gives the value each
encoding denotes; the datum-level facts (every encoding decodes to its value whatever follows,
C01) are the hypotheses `hdec`/`hun`. -/
theorem history_read (wcfg : WCfg) (rcfg : Cfg) (marker : Bytes) (ops : List WOp)
    (f : Reader Value) (val : Bytes → Value)
    (hok : RunOk wcfg { marker := marker } ops)
    (hcodec : ∀ x, wcfg.codec.decompress (wcfg.codec.compress x) = .ok x)
    (hmarker : (Writer.run wcfg { marker := marker } (ops ++ [.finish])).marker.length = 16)
    (hdec : ∀ enc ∈ appended ops, ∀ rest, f (enc ++ rest) = .ok (val enc, rest))
    (hun : (∀ enc ∈ appended ops, enc ≠ []) ∨ (∀ enc ∈ appended ops, enc = []))
    (hl63 : rcfg.lim < 2^63)
    (hcount : (appended ops).length < 2^63)
    (hsize : ∀ x : Bytes, x.length ≤ (appended ops).flatten.length → (wcfg.codec.compress x).length ≤ rcfg.lim) :
    let st := Writer.run wcfg { marker := marker } (ops ++ [.finish])
    ∃ hdr body, st.sink = hdr ++ body ∧
      readBlocks rcfg wcfg.codec f st.marker (body.length + 1) body =
        ((ops.foldl logStep []).map val, .clean) := by
  intro st
  -- finishing writes out the pending block: the blocks then hold the whole log
  obtain ⟨g, hg, ha⟩ := refines_doFlush (refines_run ops (refines_init wcfg marker) hok)
  have hp : g.pending = [] := List.length_eq_zero_iff.mp (hg.count.symm.trans (doFlush_numValues ..))
  have hlog : g.blocks.flatten = ops.foldl logStep [] := by rwa [Ghost.all, hp, List.append_nil] at ha
  -- every block is part of the log, hence of what was appended
  have hsub : ∀ b ∈ g.blocks, b.Sublist (appended ops) := fun b hb =>
    (List.sublist_flatten_of_mem hb).trans (hlog ▸ by simpa using log_sublist ops [])
  rw [run_append] at hmarker
  rw [show st = (doFlush wcfg _).1 from run_append wcfg ops _ _, ← hlog]
  exact ⟨g.hdr, _, hg.sink, readBlocks_ghost val hmarker hcodec g.blocks (appended ops)
    hg.nonempty hsub hdec hun hl63 hcount hsize⟩

end Avro.C03
