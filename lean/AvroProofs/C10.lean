import AvroModel
/-!
# C10 — schema → JSON → schema

Proved: the serializer's output is strict JSON (no object repeats a key) for every schema whose
custom attributes sit where the parser puts them (`wfA`; the parser's attribute filters establish
it, see `customAttrs_ok` / `fieldAttrs_ok`); names survive the round trip through their JSON spelling
when they carry a namespace, and change when they do not but the enclosing type does (the open
finding `C10.null-namespace-inherits`, stated here as a theorem about every such name).
The full round trip `parse (toJson s) = s` is decided by the correspondence run and the oracle,
not by a theorem.
-/
namespace Avro.C10

/-- the keys of a custom-attribute map are pairwise distinct and avoid `excl` -/
def keysOk (excl : List Bytes) (a : Attrs) : Bool :=
  decide (a.map Prod.fst).Nodup && a.all (fun kv => !excl.contains kv.1)

def fixedKeys : List Bytes := [b!"type", b!"namespace", b!"name", b!"doc", b!"size", b!"aliases"]
def recordKeys : List Bytes := [b!"type", b!"namespace", b!"name", b!"doc", b!"aliases", b!"fields"]
def enumKeys : List Bytes := [b!"type", b!"namespace", b!"name", b!"symbols", b!"aliases", b!"default", b!"doc"]
def fieldKeys : List Bytes := [b!"name", b!"type", b!"default", b!"doc", b!"aliases"]

mutual
/-- custom attributes never carry the name of a key the serializer writes for that node -/
def wfA : PSchema → Bool
  | .array s a => keysOk [b!"type", b!"items"] a && wfA s
  | .map s a => keysOk [b!"type", b!"values"] a && wfA s
  | .union bs => wfAList bs
  | .record _ _ _ fields a => keysOk recordKeys a && wfAFields fields
  | .enum _ _ _ _ _ a => keysOk enumKeys a
  | .fixed f => keysOk fixedKeys f.attrs
  | .uuidFixed f => keysOk (b!"logicalType" :: fixedKeys) f.attrs
  | .duration f => keysOk (b!"logicalType" :: fixedKeys) f.attrs
  | .decimal _ _ (some f) => keysOk (b!"logicalType" :: fixedKeys) f.attrs
  | _ => true
def wfAList : List PSchema → Bool
  | [] => true
  | s :: rest => wfA s && wfAList rest
def wfAFields : List (FieldHdr × PSchema) → Bool
  | [] => true
  | (h, s) :: rest => keysOk fieldKeys h.attrs && wfA s && wfAFields rest
end

theorem keysOk_iff {excl : List Bytes} {a : Attrs} :
    keysOk excl a = true ↔ (a.map Prod.fst).Nodup ∧ ∀ kv ∈ a, kv.1 ∉ excl := by
  simp [keysOk]

theorem filter_keysOk {kvs : List (Bytes × Json)} (hk : (kvs.map Prod.fst).Nodup) {excl : List Bytes}
    {p : Bytes × Json → Bool} (hp : ∀ kv ∈ kvs, p kv = true → kv.1 ∉ excl) :
    keysOk excl (kvs.filter p) = true :=
  keysOk_iff.mpr ⟨(List.filter_sublist.map Prod.fst).nodup hk,
    fun kv hkv => hp kv (List.mem_filter.mp hkv).1 (List.mem_filter.mp hkv).2⟩

/-- `get_custom_attributes` on an object with distinct keys: the result avoids the structural keys -/
theorem customAttrs_ok (kvs : List (Bytes × Json)) (hk : (kvs.map Prod.fst).Nodup) (excluded : List Bytes) :
    keysOk ([b!"type", b!"name", b!"namespace", b!"doc", b!"aliases", b!"logicalType"] ++ excluded)
      (customAttrs kvs excluded) = true :=
  filter_keysOk hk fun kv _ h => by
    simpa only [List.mem_append, not_or, Bool.and_eq_true, Bool.not_eq_true', List.contains_eq_mem,
      decide_eq_false_iff_not] using h

theorem fieldAttrs_ok (kvs : List (Bytes × Json)) (hk : (kvs.map Prod.fst).Nodup) :
    keysOk [b!"type", b!"name", b!"doc", b!"default", b!"aliases"] (fieldAttrs kvs) = true :=
  filter_keysOk hk fun kv _ h => by
    simpa only [Bool.not_eq_true', List.contains_eq_mem, decide_eq_false_iff_not] using h

/-- attributes that avoid `excl`, with those named in `skip` left out, avoid whatever lies in the two -/
theorem keysOk_skip {excl K : List Bytes} {a : Attrs} (skip : List Bytes) (hK : K ⊆ excl ++ skip)
    (h : keysOk excl a = true) : keysOk K (a.filter (fun kv => !skip.contains kv.1)) = true :=
  filter_keysOk (keysOk_iff.mp h).1 fun kv hkv hp hin => by
    rcases List.mem_append.mp (hK hin) with he | hs
    · exact (keysOk_iff.mp h).2 kv hkv he
    · simp [hs] at hp

theorem strictEntries_append (xs ys : List (Bytes × JOut)) :
    strictEntries (xs ++ ys) = (strictEntries xs && strictEntries ys) := by
  induction xs with
  | nil => simp [strictEntries]
  | cons x rest ih => simp [strictEntries, ih, Bool.and_assoc]

theorem strictEntries_attrs (a : Attrs) : strictEntries (attrsOut a) = true := by
  induction a with
  | nil => rfl
  | cons kv rest ih => simpa [attrsOut, strictEntries, JOut.strict] using ih

theorem strictList_strs (xs : List Bytes) : strictList (xs.map JOut.str) = true := by
  induction xs with
  | nil => rfl
  | cons x rest ih => simpa [strictList, JOut.strict] using ih

theorem aliasesOut_strict (al : List PName) : (aliasesOut al).strict = true := by
  induction al with
  | nil => rfl
  | cons x rest ih => simpa [aliasesOut, strictList, JOut.strict] using ih

/-- a run of `serialize_entry` calls, some of them under an `if let Some(..)`: the keys in the order
written, each with its value, `none` when the entry is left out.  Whatever is present, the keys written
are a sublist of `ks`; strictness needs no more. -/
def written (ks : List Bytes) (os : List (Option JOut)) : List (Bytes × JOut) :=
  (ks.zip os).filterMap fun e => e.2.map (e.1, ·)

/-- every value present is strict -/
inductive Rows : List (Option JOut) → Prop
  | nil : Rows []
  | none {os : List (Option JOut)} : Rows os → Rows (none :: os)
  | some {v : JOut} {os : List (Option JOut)} : v.strict = true → Rows os → Rows (some v :: os)

theorem Rows.map {α : Type} {f : α → JOut} {o : Option α} {os : List (Option JOut)} (hf : ∀ x, (f x).strict = true)
    (h : Rows os) : Rows (o.map f :: os) := by
  cases o
  · exact .none h
  · exact .some (hf _) h

theorem written_spec : ∀ (ks : List Bytes) {os : List (Option JOut)}, Rows os →
    ((written ks os).map Prod.fst).Sublist ks ∧ strictEntries (written ks os) = true
  | [], _, _ => ⟨.slnil, rfl⟩
  | _ :: _, _, .nil => ⟨List.nil_sublist _, rfl⟩
  | k :: ks, _, .none h => ⟨.cons k (written_spec ks h).1, (written_spec ks h).2⟩
  | k :: ks, _, .some hv h =>
    ⟨.cons_cons k (written_spec ks h).1, by simpa [written, strictEntries, hv] using (written_spec ks h).2⟩

/-- an object `written ks os ++ attributes ++ tail` repeats no key when the keys around the attributes
are distinct and the attributes avoid them -/
theorem written_strict_tail {ks K₂ : List Bytes} {os : List (Option JOut)} {tail : List (Bytes × JOut)} {a : Attrs}
    (hk : tail.map Prod.fst = K₂) (hK : (ks ++ K₂).Nodup) (ha : keysOk (ks ++ K₂) a = true)
    (hs : Rows os) (ht : strictEntries tail = true) :
    (JOut.obj (written ks os ++ attrsOut a ++ tail)).strict = true := by
  subst hk
  obtain ⟨hnd, hav⟩ := keysOk_iff.mp ha
  obtain ⟨hw, hws⟩ := written_spec ks hs
  have hkeys : (attrsOut a).map Prod.fst = a.map Prod.fst := by simp [attrsOut, Function.comp_def]
  have hsub : ((written ks os ++ tail).map Prod.fst).Sublist (ks ++ tail.map Prod.fst) := by
    rw [List.map_append]; exact hw.append (.refl _)
  have hperm : (written ks os ++ attrsOut a ++ tail).Perm ((written ks os ++ tail) ++ attrsOut a) := by
    rw [List.append_assoc, List.append_assoc]
    exact List.Perm.append_left _ List.perm_append_comm
  simp only [JOut.strict, Bool.and_eq_true, decide_eq_true_eq, strictEntries_append, hws, ht, strictEntries_attrs,
    and_true]
  rw [(hperm.map Prod.fst).nodup_iff, List.map_append, hkeys]
  refine List.nodup_append.mpr ⟨hsub.nodup hK, hnd, ?_⟩
  intro k hk k' hk' heq
  subst heq
  obtain ⟨kv, hkv, rfl⟩ := List.mem_map.mp hk'
  exact hav kv hkv (hsub.subset hk)

theorem written_strict {ks : List Bytes} {os : List (Option JOut)} {a : Attrs}
    (hK : ks.Nodup) (ha : keysOk ks a = true) (hs : Rows os) :
    (JOut.obj (written ks os ++ attrsOut a)).strict = true := by
  simpa using written_strict_tail (tail := []) rfl (by simpa using hK) (by simpa using ha) hs rfl

/-! the serializer's objects as such tables -/

theorem fixedEntries_eq (f : FixedP) (skip : List Bytes) :
    fixedEntries f skip =
      written fixedKeys [some (.str b!"fixed"), f.name.ns.map .str, some (.str f.name.name), f.doc.map .str,
        some (.num f.size), f.aliases.map aliasesOut] ++
      attrsOut (f.attrs.filter (fun kv => !skip.contains kv.1)) := by
  unfold fixedEntries
  cases f.name.ns <;> cases f.doc <;> cases f.aliases <;> rfl

theorem toJson_array (items : PSchema) (attrs : Attrs) :
    toJson (.array items attrs) =
      .obj (written [b!"type", b!"items"] [some (.str b!"array"), some (toJson items)] ++ attrsOut attrs) := rfl

theorem toJson_map (values : PSchema) (attrs : Attrs) :
    toJson (.map values attrs) =
      .obj (written [b!"type", b!"values"] [some (.str b!"map"), some (toJson values)] ++ attrsOut attrs) := rfl

theorem toJson_record (name : PName) (aliases : Option (List PName)) (doc : Option Bytes)
    (fields : List (FieldHdr × PSchema)) (attrs : Attrs) :
    toJson (.record name aliases doc fields attrs) =
      .obj (written recordKeys [some (.str b!"record"), name.ns.map .str, some (.str name.name), doc.map .str,
        aliases.map aliasesOut, some (.arr (toJsonFields fields))] ++ attrsOut attrs) := by
  unfold toJson
  cases name.ns <;> cases doc <;> cases aliases <;> rfl

theorem toJson_enum (name : PName) (aliases : Option (List PName)) (doc : Option Bytes) (symbols : List Bytes)
    (default : Option Bytes) (attrs : Attrs) :
    toJson (.enum name aliases doc symbols default attrs) =
      .obj (written enumKeys [some (.str b!"enum"), name.ns.map .str, some (.str name.name),
        some (.arr (symbols.map .str)), aliases.map aliasesOut, default.map .str, doc.map .str] ++ attrsOut attrs) := by
  unfold toJson
  cases name.ns <;> cases doc <;> cases aliases <;> cases default <;> rfl

theorem toJsonFields_cons (h : FieldHdr) (s : PSchema) (rest : List (FieldHdr × PSchema)) :
    toJsonFields ((h, s) :: rest) =
      .obj (written fieldKeys [some (.str h.name), some (toJson s), h.default.map .raw, h.doc.map .str,
        if h.aliases.isEmpty then none else some (.arr (h.aliases.map .str))] ++ attrsOut h.attrs) ::
      toJsonFields rest := by
  simp only [toJsonFields]
  cases h.default <;> cases h.doc <;> cases h.aliases.isEmpty <;> rfl

/-- a fixed (plain or under a logical type): its own entries, the attributes without `skip`, then `tail` -/
theorem fixed_strict (f : FixedP) (skip K₂ : List Bytes) {excl : List Bytes} {tail : List (Bytes × JOut)}
    (hk : tail.map Prod.fst = K₂) (hK : (fixedKeys ++ K₂).Nodup) (hex : fixedKeys ++ K₂ ⊆ excl ++ skip)
    (ha : keysOk excl f.attrs = true) (ht : strictEntries tail = true) :
    (JOut.obj (fixedEntries f skip ++ tail)).strict = true := by
  rw [fixedEntries_eq]
  exact written_strict_tail hk hK (keysOk_skip skip hex ha)
    (.some rfl <| .map (fun _ => rfl) <| .some rfl <| .map (fun _ => rfl) <| .some rfl <|
      .map aliasesOut_strict .nil) ht

/-- a fixed under the logical type `lt`, which has no parameters of its own -/
theorem fixed_logical_strict (f : FixedP) (lt : Bytes) (ha : keysOk (b!"logicalType" :: fixedKeys) f.attrs = true) :
    (JOut.obj (fixedEntries f [] ++ [(b!"logicalType", .str lt)])).strict = true :=
  fixed_strict f [] [b!"logicalType"] rfl (by decide) (by decide) ha rfl

theorem logicalOut_strict (base lt : Bytes) : (logicalOut base lt).strict = true := by
  simp [logicalOut, JOut.strict, strictEntries]

mutual
/-- **the serializer writes strict JSON**: no object repeats a key, at any depth -/
theorem toJson_strict : ∀ (s : PSchema), wfA s = true → (toJson s).strict = true
  | .null, _ | .boolean, _ | .int, _ | .long, _ | .float, _ | .double, _ | .bytes, _ | .string, _ | .ref _, _ => rfl
  | .bigDecimal, _ | .uuidBytes, _ | .uuidString, _ | .date, _ | .timeMillis, _ | .timeMicros, _ | .tsMillis, _
  | .tsMicros, _ | .tsNanos, _ | .ltsMillis, _ | .ltsMicros, _ | .ltsNanos, _ => logicalOut_strict _ _
  | .array items attrs, h => by
    -- `wfA` unfolds by computation; rewriting with its equations is slow (a mutual definition over `PSchema`)
    have h := Bool.and_eq_true_iff.mp h
    rw [toJson_array]
    exact written_strict (by decide) h.1 (.some rfl <| .some (toJson_strict items h.2) .nil)
  | .map values attrs, h => by
    have h := Bool.and_eq_true_iff.mp h
    rw [toJson_map]
    exact written_strict (by decide) h.1 (.some rfl <| .some (toJson_strict values h.2) .nil)
  | .union bs, h => toJsonList_strict bs h
  | .record name aliases doc fields attrs, h => by
    have h := Bool.and_eq_true_iff.mp h
    rw [toJson_record]
    exact written_strict (by decide) h.1 (.some rfl <| .map (fun _ => rfl) <| .some rfl <| .map (fun _ => rfl) <|
      .map aliasesOut_strict <| .some (toJsonFields_strict fields h.2) .nil)
  | .enum name aliases doc symbols default attrs, h => by
    rw [toJson_enum]
    exact written_strict (by decide) h (.some rfl <| .map (fun _ => rfl) <| .some rfl <| .some (strictList_strs _) <|
      .map aliasesOut_strict <| .map (fun _ => rfl) <| .map (fun _ => rfl) .nil)
  | .fixed f, h => by
    have := fixed_strict f [] [] (tail := []) rfl (by decide) (by decide) h rfl
    rwa [List.append_nil] at this
  | .uuidFixed f, h => fixed_logical_strict f _ h
  | .duration f, h => fixed_logical_strict f _ h
  | .decimal p sc none, _ => rfl
  | .decimal p sc (some f), h =>
    fixed_strict f [b!"scale", b!"precision"] [b!"logicalType", b!"scale", b!"precision"] rfl (by decide) (by decide) h rfl

theorem toJsonList_strict : ∀ (bs : List PSchema), wfAList bs = true → strictList (toJsonList bs) = true
  | [], _ => rfl
  | s :: rest, h =>
    have h := Bool.and_eq_true_iff.mp h
    Bool.and_eq_true_iff.mpr ⟨toJson_strict s h.1, toJsonList_strict rest h.2⟩

theorem toJsonFields_strict : ∀ (fs : List (FieldHdr × PSchema)), wfAFields fs = true →
    strictList (toJsonFields fs) = true
  | [], _ => rfl
  | (hd, s) :: rest, h => by
    have h := Bool.and_eq_true_iff.mp h
    have h1 := Bool.and_eq_true_iff.mp h.1
    rw [toJsonFields_cons]
    refine Bool.and_eq_true_iff.mpr ⟨written_strict (by decide) h1.1 (.some rfl <| .some (toJson_strict s h1.2) <|
      .map (fun _ => rfl) <| .map (fun _ => rfl) ?_), toJsonFields_strict rest h.2⟩
    split
    · exact .none .nil
    · exact .some (strictList_strs _) .nil
end

theorem splitDots_nodot (s : Bytes) (h : ∀ c ∈ s, c ≠ 46) : splitDots s = [s] := by
  induction s with
  | nil => rfl
  | cons c rest ih =>
    have hc : (c == 46) = false := by simpa using h c (by simp)
    simp only [splitDots, hc, Bool.false_eq_true, if_false, ih (fun x hx => h x (by simp [hx]))]

theorem ident_nodot (s : Bytes) (h : isIdent s = true) : ∀ c ∈ s, c ≠ 46 := by
  cases s with
  | nil => simp [isIdent] at h
  | cons c rest =>
    simp only [isIdent, Bool.and_eq_true, List.all_eq_true] at h
    rintro x hx rfl
    rcases List.mem_cons.mp hx with rfl | hx
    · exact absurd h.1 (by decide)
    · exact absurd (h.2 _ hx) (by decide)

theorem nameIndex_ident (s : Bytes) (h : isIdent s = true) : schemaNameIndex s = some 0 := by
  unfold schemaNameIndex
  simp [splitDots_nodot s (ident_nodot s h), h]

theorem make_ident {nm ns : Bytes} (hid : isIdent nm = true) (hne : ns ≠ []) (hns : isNamespace ns = true) :
    PName.make nm (some ns) = some ⟨some ns, nm⟩ := by
  have hemp : ns.isEmpty = false := List.isEmpty_eq_false_iff.mpr hne
  simp [PName.make, PName.raw, nameIndex_ident nm hid, hemp, hns, PName.ok, hid]

/-- a name WITH a namespace is written as `"namespace"` + `"name"` and read back as itself, whatever
the enclosing namespace at the place it is read -/
theorem name_roundtrip_with_namespace (n : PName) (ns : Bytes) (hns : n.ns = some ns) (hok : n.ok = true)
    (enclosing : Option Bytes) :
    parseName [(b!"name", .str n.name), (b!"namespace", .str ns)] enclosing = some n := by
  obtain ⟨_, nm⟩ := n
  cases hns
  simp only [PName.ok, Bool.and_eq_true, Bool.not_eq_true', List.isEmpty_eq_false_iff] at hok
  exact make_ident hok.1 hok.2.1 hok.2.2

/-- a name WITHOUT a namespace is written as `"name"` alone; read back inside a type that has the
namespace `e` it becomes `e.name` - another name (the finding `C10.null-namespace-inherits`) -/
theorem null_namespace_inherits (n : PName) (hns : n.ns = none) (hok : n.ok = true) (e : Bytes)
    (he : e ≠ []) (heok : isNamespace e = true) :
    parseName [(b!"name", .str n.name)] (some e) = some { ns := some e, name := n.name } ∧
    ({ ns := some e, name := n.name } : PName) ≠ n := by
  refine ⟨make_ident ?_ he heok, fun h => by rw [← h] at hns; cases hns⟩
  simpa only [PName.ok, hns, Bool.and_true] using hok

end Avro.C10
