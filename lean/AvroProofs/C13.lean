import AvroModel
/-!
# C13 — writers never lose data silently on short writes or sink errors

The theorem is generic over the sink script (every choice of per-call accepted length, every
error position, `Interrupted` included) and over the table of write sites; the table itself is
regenerated from the Rust sources by the translator on every run, and the instance
`all_sites_use_writeAll` is re-checked by `decide`.
-/
namespace Avro.C13

theorem writeAllAux_ok (script : List SinkStep) (delivered b : Bytes) (st' : SinkSt)
    (h : Sink.writeAllAux script delivered b = (st', .ok ())) : st'.delivered = delivered ++ b := by
  fun_induction Sink.writeAllAux script delivered b with
  | case1 => cases h; exact (List.append_nil _).symm
  | case2 => cases h; rfl
  | case3 => cases h
  | case4 k _ _ b _ _ ih => rw [ih h, List.append_assoc, List.take_append_drop]
  | case5 _ _ _ _ ih => exact ih h
  | case6 => cases h

/-- `write_all` either delivers exactly the buffer or reports an error — for **every** sink. -/
theorem writeAll_exact (st : SinkSt) (b : Bytes) (st' : SinkSt)
    (h : Sink.writeAll st b = (st', .ok ())) : st'.delivered = st.delivered ++ b :=
  writeAllAux_ok st.script st.delivered b st' h

/-- a path that uses `write_all` at every site delivers exactly the concatenation of its
buffers whenever it reports success. -/
theorem path_exact : ∀ (p : List (SiteMethod × Bytes)) (st st' : SinkSt),
    (∀ site ∈ p, site.1 = .writeAll) → Sink.runPath st p = (st', .ok ()) →
    st'.delivered = st.delivered ++ (p.map Prod.snd).flatten := by
  intro p st st' hall h
  fun_induction Sink.runPath st p <;> try cases h
  · simp
  · cases hall _ (.head _)                        -- a `write` site
  next hw ih => rw [ih (fun s hs => hall s (.tail _ hs)) h, writeAll_exact _ _ _ hw]; simp

/-- the converse: a single `write` site is enough to lose data silently — there is a contract-obeying
sink on which the path reports success yet delivers a strict prefix. -/
theorem short_write_loses (b : Bytes) (hb : 2 ≤ b.length) :
    ∃ st st', Sink.runPath st [(.write, b)] = (st', .ok ()) ∧ st'.delivered.length < b.length := by
  refine ⟨{ script := [.accept 1], delivered := [] }, { script := [], delivered := b.take 1 }, ?_, ?_⟩
  · simp [Sink.runPath, Sink.write]
  · simp; omega

/-- **instance re-checked against the current sources on every run**: every expression in the
production write paths that sends bytes to a sink calls `write_all`. -/
theorem all_sites_use_writeAll :
    Avro.Generated.writeSites.all (fun s => s.method == .writeAll) = true := by decide

/-- the table is not vacuous: the translator found write sites in these four production files (it also lists the four
files of `serde/ser_schema`; `all_sites_use_writeAll` is about the whole table) -/
theorem sites_found :
    ["avro/src/encode.rs", "avro/src/util.rs", "avro/src/writer/mod.rs", "avro/src/writer/single_object.rs"].all
      (fun f => Avro.Generated.writeSites.any (fun s => s.file == f)) = true := by
  decide

/-- non-vacuity: a sink that interrupts, then takes 1 byte, then 2, then the rest; and one that takes 1 byte, then fails -/
example : (Sink.writeAll { script := [.fail true, .accept 1, .accept 2], delivered := [] } [1, 2, 3, 4]).1.delivered
    = [1, 2, 3, 4] := by decide
example : (Sink.writeAll { script := [.accept 1, .fail false], delivered := [] } [1, 2, 3]).2 = .error .io := rfl

end Avro.C13
