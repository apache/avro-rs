import AvroModel
import AvroProofs.Lemmas.Resolve
/-!
# C08 — schema resolution

The crate resolves a decoded VALUE against the reader schema (the writer schema is not consulted),
so the rules are stated on (value, reader schema).  Each theorem is the rule of the specification
for one reader type, for every payload; the enum and record rules are stated on the functions `resolve` hands these
arms to (`resolveEnum`, `resolveFieldsWith`).
-/
namespace Avro.C08

variable (fo : FloatOps) (cfg : Cfg) (env : Names) (f : Nat)

/-! ### numeric and string/bytes promotions -/

theorem int_to_long (n : Int) : resolve fo cfg env (f+1) .long (.int n) = .ok (.long n) := rfl
theorem int_to_float (n : Int) : resolve fo cfg env (f+1) .float (.int n) = .ok (.float (fo.i2f32 n)) := rfl
theorem int_to_double (n : Int) : resolve fo cfg env (f+1) .double (.int n) = .ok (.double (fo.i2f64 n)) := rfl
theorem long_to_float (n : Int) : resolve fo cfg env (f+1) .float (.long n) = .ok (.float (fo.i2f32 n)) := rfl
theorem long_to_double (n : Int) : resolve fo cfg env (f+1) .double (.long n) = .ok (.double (fo.i2f64 n)) := rfl
theorem float_to_double (x : UInt32) : resolve fo cfg env (f+1) .double (.float x) = .ok (.double (fo.f32to64 x)) := rfl
theorem string_to_bytes (u : Bytes) : resolve fo cfg env (f+1) .bytes (.string u) = .ok (.bytes u) := rfl
theorem bytes_to_string (b : Bytes) :
    resolve fo cfg env (f+1) .string (.bytes b) = if validUtf8 b then .ok (.string b) else .error .badUtf8 := rfl

/-- a value of a logical type is read as its underlying type when the reader does not have it -/
theorem logical_to_underlying (n : Int) (k : LongKind) :
    resolve fo cfg env (f+1) .int (.date n) = .ok (.int n) ∧
    resolve fo cfg env (f+1) .int (.timeMillis n) = .ok (.int n) ∧
    resolve fo cfg env (f+1) .long (.date n) = .ok (.long n) ∧
    resolve fo cfg env (f+1) .long (.timeMillis n) = .ok (.long n) ∧
    resolve fo cfg env (f+1) .long (.longL k n) = .ok (.long n) := ⟨rfl, rfl, rfl, rfl, rfl⟩

/-- …but NOT promoted further: the crate refuses to read a logical int/long as float or double
(its test-suite pins this; by the specification it is a legal promotion — recorded finding) -/
theorem logical_not_promoted_to_float (n : Int) (k : LongKind) :
    resolve fo cfg env (f+1) .float (.date n) = .error .mismatch ∧
    resolve fo cfg env (f+1) .double (.timeMillis n) = .error .mismatch ∧
    resolve fo cfg env (f+1) .float (.longL k n) = .error .mismatch ∧
    resolve fo cfg env (f+1) .double (.longL k n) = .error .mismatch := ⟨rfl, rfl, rfl, rfl⟩

/-- and the other way round -/
theorem underlying_to_logical (n : Int) (k : LongKind) :
    resolve fo cfg env (f+1) .date (.int n) = .ok (.date n) ∧
    resolve fo cfg env (f+1) .timeMillis (.int n) = .ok (.timeMillis n) ∧
    resolve fo cfg env (f+1) (.longL k) (.long n) = .ok (.longL k n) ∧
    resolve fo cfg env (f+1) (.longL k) (.int n) = .ok (.longL k n) := ⟨rfl, rfl, rfl, rfl⟩

/-! ### where the rules give no result, an error is returned -/

theorem ok_eq_ite {α : Type} {c : Prop} [Decidable c] {a w : α} {e : Err} :
    Except.ok w = (if c then Except.ok a else Except.error e) ↔ w = a ∧ c := by
  split <;> simp [*]

/- Each rule follows the arms of `resolve`'s own match on the value: an arm that returns a value is one of the
alternatives on the right, and in the last arm the value is none of the shapes named there. -/

/-- `null` reader: only `null` (possibly inside a union value, which is unwrapped first) -/
theorem null_reader (v w : Value) :
    resolve fo cfg env (f+1) .null v = .ok w ↔ (w = .null ∧ unwrapFor .null v = .null) := by
  simp only [resolve]; generalize unwrapFor .null v = u
  rw [eq_comm]; split <;> simp_all

theorem boolean_reader (v w : Value) :
    resolve fo cfg env (f+1) .boolean v = .ok w ↔ ∃ b, w = .boolean b ∧ unwrapFor .boolean v = .boolean b := by
  simp only [resolve]; generalize unwrapFor .boolean v = u
  rw [eq_comm]; split <;> simp_all

/-- `int` reader: `int` and the logical types over `int`; a `long` only when it is in range (the
crate is more lenient than the specification here: recorded as a finding) -/
theorem int_reader (v w : Value) :
    resolve fo cfg env (f+1) .int v = .ok w ↔
      ∃ n, w = .int n ∧ (unwrapFor .int v = .int n ∨ unwrapFor .int v = .date n ∨ unwrapFor .int v = .timeMillis n ∨
                        (unwrapFor .int v = .long n ∧ i32ok' n = true)) := by
  simp only [resolve]; generalize unwrapFor .int v = u
  rw [eq_comm]; split <;> simp_all [ok_eq_ite, and_comm, and_assoc]

/-- `long` reader: `int`, `long` and every logical type over them -/
theorem long_reader (v w : Value) :
    resolve fo cfg env (f+1) .long v = .ok w ↔
      ∃ n, w = .long n ∧ (unwrapFor .long v = .int n ∨ unwrapFor .long v = .date n ∨ unwrapFor .long v = .timeMillis n ∨
                         unwrapFor .long v = .long n ∨ ∃ k, unwrapFor .long v = .longL k n) := by
  simp only [resolve]; generalize unwrapFor .long v = u
  rw [eq_comm]; split <;> simp_all

/-- `string` reader: `string`, and `bytes`/`fixed` that are valid UTF-8 -/
theorem string_reader (v w : Value) :
    resolve fo cfg env (f+1) .string v = .ok w ↔
      ∃ u, w = .string u ∧ (unwrapFor .string v = .string u ∨
        ((unwrapFor .string v = .bytes u ∨ ∃ n, unwrapFor .string v = .fixed n u) ∧ validUtf8 u = true)) := by
  simp only [resolve]; generalize unwrapFor .string v = x
  rw [eq_comm]; split <;> simp_all [ok_eq_ite, and_comm, and_assoc]

/-! ### enums: by symbol name, the reader's default for unknown symbols -/

theorem enum_by_name (syms : List Bytes) (d : Option Bytes) (i j : Nat) (s : Bytes)
    (h : indexOfSym syms s = some j) :
    resolveEnum syms d (.enum i s) = .ok (.enum j s) := by simp [resolveEnum, h]

theorem enum_unknown_default (syms : List Bytes) (dflt : Bytes) (i j : Nat) (s : Bytes)
    (h : indexOfSym syms s = none) (hd : indexOfSym syms dflt = some j) :
    resolveEnum syms (some dflt) (.enum i s) = .ok (.enum j dflt) := by simp [resolveEnum, h, hd]

theorem enum_unknown_no_default (syms : List Bytes) (i : Nat) (s : Bytes)
    (h : indexOfSym syms s = none) :
    resolveEnum syms none (.enum i s) = .error .mismatch := by simp [resolveEnum, h]

/-! ### records: reader order, fields by name or reader alias, writer-only fields dropped, defaults -/

/-- the result has exactly the reader's fields, in the reader's order, under the reader's names —
whatever the order of the written fields and whatever else was written -/
theorem record_reader_order (g : Schema → Value → Except Err Value) :
    ∀ (fields : List (FieldMeta × Schema)) (items out : List (Bytes × Value)),
      resolveFieldsWith g fields items = .ok out → out.map Prod.fst = fields.map (fun x => x.1.name) := by
  intro fields items out h
  fun_induction resolveFieldsWith g fields items generalizing out <;> cases h
  · rfl
  next hr ih => exact congrArg (_ :: ·) (ih _ hr)

/-- a reader field whose name was written takes the written value (resolved against the field's type) -/
theorem field_by_name (g : Schema → Value → Except Err Value) (m : FieldMeta) (s : Schema)
    (rest : List (FieldMeta × Schema)) (items : List (Bytes × Value)) (v : Value)
    (h : mapGet items m.name = some v) :
    resolveFieldsWith g ((m, s) :: rest) items =
      (match g s v with
       | .error e => .error e
       | .ok w => match resolveFieldsWith g rest (mapRemove items m.name) with
         | .ok ws => .ok ((m.name, w) :: ws)
         | .error e => .error e) := by
  simp only [resolveFieldsWith, h]
  rfl

/-- otherwise the first of the reader field's aliases that was written -/
theorem field_by_alias (g : Schema → Value → Except Err Value) (m : FieldMeta) (s : Schema)
    (rest : List (FieldMeta × Schema)) (items : List (Bytes × Value)) (a : Bytes) (v : Value)
    (h : mapGet items m.name = none)
    (ha : m.aliases.find? (fun a => (mapGet items a).isSome) = some a) (hv : mapGet items a = some v) :
    resolveFieldsWith g ((m, s) :: rest) items =
      (match g s v with
       | .error e => .error e
       | .ok w => match resolveFieldsWith g rest (mapRemove items a) with
         | .ok ws => .ok ((m.name, w) :: ws)
         | .error e => .error e) := by
  simp only [resolveFieldsWith, h, ha, hv]
  rfl

/-- a reader-only field without a default is an error -/
theorem field_missing_no_default (g : Schema → Value → Except Err Value) (m : FieldMeta) (s : Schema)
    (rest : List (FieldMeta × Schema)) (items : List (Bytes × Value))
    (h : mapGet items m.name = none)
    (ha : m.aliases.find? (fun a => (mapGet items a).isSome) = none) (hd : m.default = none) :
    resolveFieldsWith g ((m, s) :: rest) items = .error .mismatch := by
  simp only [resolveFieldsWith, h, ha, hd]

/-- a reader-only field of a plain (non-enum, non-union) type takes its declared default, converted
from JSON and resolved against the field's type -/
theorem field_default_plain (g : Schema → Value → Except Err Value) (m : FieldMeta) (s : Schema)
    (rest : List (FieldMeta × Schema)) (items : List (Bytes × Value)) (j : Json)
    (h : mapGet items m.name = none)
    (ha : m.aliases.find? (fun a => (mapGet items a).isSome) = none) (hd : m.default = some j)
    (hs : (∀ n sy d, s ≠ .enum n sy d) ∧ ∀ bs, s ≠ .union bs) :
    resolveFieldsWith g ((m, s) :: rest) items =
      (match jsonToValue j with
       | .error e => .error e
       | .ok v => match g s v with
         | .error e => .error e
         | .ok w => match resolveFieldsWith g rest items with
           | .ok ws => .ok ((m.name, w) :: ws)
           | .error e => .error e) := by
  simp only [resolveFieldsWith, h, ha, hd]
  -- the default is converted as it stands unless the field is an enum or a union
  cases s
  case enum => exact absurd rfl (hs.1 _ _ _)
  case union => exact absurd rfl (hs.2 _)
  all_goals rfl

theorem unwrapFor_union (bs : List Schema) (v : Value) : unwrapFor (.union bs) v = v := by
  unfold unwrapFor; split <;> rfl

/-- a value resolved against a reader union is tagged with the index of a branch of that union, and
its content is the value resolved against exactly that branch -/
theorem union_branch_sound (bs : List Schema) (v w : Value)
    (h : resolve fo cfg env (f+1) (.union bs) v = .ok w) :
    ∃ i b w', w = .union i w' ∧ bs[i]? = some b ∧ resolve fo cfg env f b (unionPayload v) = .ok w' := by
  simp only [resolve, unwrapFor_union] at h
  split at h
  · cases h
  next i b hb =>
    split at h
    next w' hr => cases h; exact ⟨i, b, w', rfl, findBranchWith_sound _ bs _ i b hb, hr⟩
    next => cases h

/-- a value no branch accepts is an error, not a value -/
theorem union_no_branch (bs : List Schema) (v : Value)
    (h : findBranchWith (fun b => (resolve fo cfg env f b (unionPayload v)).toBool) bs (unionPayload v) = none) :
    resolve fo cfg env (f+1) (.union bs) v = .error .mismatch := by
  simp only [resolve, unwrapFor_union, h]

end Avro.C08
