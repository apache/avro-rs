import AvroModel
import AvroProofs.Lemmas.Reader
/-!
# C05 — decoding untrusted bytes never panics, aborts, hangs or over-allocates

What a theorem can carry here: the *guards*.  Every allocation site of the decoders is preceded
by `safe_len` / `safe_collection_len`; the statements below say that, for **every** limit
(0 … usize::MAX) and every input, the size requested at each site is within the limit, that the
guards cannot be defeated by overflow, and that everything inside a successfully decoded value is
within the limit.  Panics, aborts, wall-clock time and what the allocator really does are
observed by the correspondence harness (counting allocator, catch_unwind, watchdog); the model
decoder is total by construction (structural recursion on a finite budget).
-/
namespace Avro.C05

/-- `safe_len` accepts exactly the lengths up to the limit, whatever the limit is. -/
theorem safeLen_iff (lim n : Nat) : safeLen lim n = .ok n ↔ n ≤ lim :=
  safeLen_eq_ok.trans (and_iff_right rfl)

/-- `safe_collection_len` cannot be defeated by overflow: it accepts iff the byte size fits in a
`usize` **and** is within the limit — also when the limit is `usize::MAX`. -/
theorem safeCollectionLen_iff (lim sz total : Nat) :
    safeCollectionLen lim sz total = .ok () ↔ total * sz < 2^64 ∧ total * sz ≤ lim :=
  safeCollectionLen_eq_ok

/-- bytes / string: the buffer that is allocated never exceeds the limit. -/
theorem allocBytes_le (lim : Nat) (bs : Bytes) (n : Nat) (h : allocBytes lim bs = some n) : n ≤ lim := by
  revert h
  fun_cases allocBytes lim bs <;> intro h <;> cases h
  next hd => exact post_decLen lim _ _ _ hd

/-- fixed: the size comes from the (possibly embedded, untrusted) schema and is bounded too. -/
theorem allocFixed_le (lim size n : Nat) (h : allocFixed lim size = some n) : n ≤ lim := by
  revert h
  fun_cases allocFixed lim size <;> intro h <;> cases h
  next hs => exact safeLen_le hs

/-- arrays: the vector is never asked to hold more bytes than the limit, cumulatively over blocks. -/
theorem allocArrayBlock_le (cfg : Cfg) (have_ : Nat) (bs : Bytes) (n : Nat)
    (h : allocArrayBlock cfg have_ bs = some n) : n ≤ cfg.lim := by
  revert h
  fun_cases allocArrayBlock cfg have_ bs <;> intro h <;> cases h
  next hs => exact (safeCollectionLen_eq_ok.mp hs).2

/-- maps: the same, with the size of a map entry. -/
theorem allocMapBlock_le (cfg : Cfg) (have_ : Nat) (bs : Bytes) (n : Nat)
    (h : allocMapBlock cfg have_ bs = some n) : n ≤ cfg.lim := by
  revert h
  fun_cases allocMapBlock cfg have_ bs <;> intro h <;> cases h
  next hs => exact (safeCollectionLen_eq_ok.mp hs).2

/-- container block: the buffer is resized to the declared byte size only within the limit. -/
theorem allocBlockBuf_le (lim : Nat) (bs : Bytes) (n : Nat) (h : allocBlockBuf lim bs = some n) : n ≤ lim := by
  revert h
  fun_cases allocBlockBuf lim bs <;> intro h <;> cases h
  next hs => exact safeLen_le hs

/-- a block count is never trusted beyond the limit either (this is what bounds the *time* spent
on zero-width items such as `array<null>`). -/
theorem blockCount_le (lim : Nat) (bs : Bytes) (k : Nat) (r : Bytes)
    (h : decSeqLen lim bs = .ok (k, r)) : k ≤ lim := post_decSeqLen lim bs k r h

/-- varints: at most ten bytes are ever read (a tenth byte with its continuation bit set is an error, so a too-long
encoding is never run off silently; the statement is about the successful reads). -/
theorem decodeVar_consumes_le_10 (bs : Bytes) (z : Nat) (r : Bytes) (h : decodeVar bs = .ok (z, r)) :
    bs.length ≤ r.length + 10 ∧ r.length < bs.length := by
  obtain ⟨c, rfl, hc1, hc2, _⟩ := decodeVar_ok h
  rw [List.length_append]
  omega

/-- **the work a hostile count can cause is bounded by the limit, not by the input**: a successfully decoded array
holds at most `lim / size_of::<Value>()` items, cumulatively over all its blocks and whatever the items' width - a
block of `null`s costs no input bytes, so this (with `blockCount_le` for the failing runs) is what bounds the number of
item decodes -/
theorem array_items_bounded (cfg : Cfg) (env : Names) (fuel : Nat) (inner : Schema) (bs r : Bytes) (items : List Value)
    (h : decode cfg env (fuel + 1) (.array inner) bs = .ok (.array items, r)) :
    items.length * cfg.szValue ≤ cfg.lim := by
  rw [decode_succ] at h
  obtain ⟨its, _, ha, hr⟩ := rbind_eq_ok.mp h
  obtain ⟨⟨⟩, _⟩ := rret_eq_ok.mp hr
  exact (post_arrayBlocks Post.trivial _ _ _ ha).2

/-- the same for maps (`size_of` of a map entry) -/
theorem map_entries_bounded (cfg : Cfg) (env : Names) (fuel : Nat) (inner : Schema) (bs r : Bytes)
    (es : List (Bytes × Value))
    (h : decode cfg env (fuel + 1) (.map inner) bs = .ok (.map es, r)) :
    es.length * cfg.szEntry ≤ cfg.lim := by
  rw [decode_succ] at h
  obtain ⟨its, _, ha, hr⟩ := rbind_eq_ok.mp h
  obtain ⟨⟨⟩, _⟩ := rret_eq_ok.mp hr
  exact (post_mapBlocks Post.trivial _ _ _ ha).2

/-- non-vacuity: with a limit of two `Value`s, a block of two zero-width items is read and a block of three is refused
before any item is decoded; two blocks of two are refused at the second block (the bound is cumulative) -/
example : decode { lim := 112 } [] 3 (.array .null) [4, 0] = .ok (.array [.null, .null], []) := by rfl
example : decode { lim := 112 } [] 3 (.array .null) [6, 0] = .error .allocLimit := by rfl
example : decode { lim := 112 } [] 3 (.array .null) [4, 4, 0] = .error .allocLimit := by rfl

/-- non-vacuity / boundary instances, also at the extremes of the limit -/
example : safeLen 0 0 = .ok 0 ∧ safeLen 0 1 = .error .allocLimit := ⟨rfl, rfl⟩
example : safeCollectionLen (2^64 - 1) 56 (2^62) = .error .overflow := by simp [safeCollectionLen]
example : allocArrayBlock { lim := 4096 } 0 [146, 1] = some (73 * 56) := by decide  -- 73 values fit
example : allocArrayBlock { lim := 4096 } 0 [148, 1] = none := by decide            -- 74 do not

end Avro.C05
