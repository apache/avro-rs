import AvroModel
/-!
# C19 — process-wide settings are first-set-wins, uniformly enforced and thread-safe

The theorems quantify over **every schedule** (every interleaving of any number of threads'
operations on one cell = every list of operations).  The second half (`uniform_limit` … `atomic_ops_only`) are facts about
tables the translator regenerates from the Rust sources on every run.
-/
namespace Avro.C19

variable {α : Type}

/-- once a cell holds a value, no operation changes it -/
theorem step_keeps (c : OnceCell α) (w : α) (h : c.v = some w) (op : OnceOp α) :
    (c.step op).1.v = some w := by
  cases op <;> simp [OnceCell.step, h]

/-- what an operation reports when the cell already holds `w`: the value in force, or `Err(own
argument)` for a setter — never its own proposal as if it had won -/
def reportsInForce (w : α) : OnceOp α → OnceOut α → Prop
  | .getOrInit _, o => o = .value w
  | .set x, o => o = .setErr x

/-- pointwise: the i-th operation and the i-th report are related (and the lists have equal length) -/
def allReport (w : α) : List (OnceOp α) → List (OnceOut α) → Prop
  | [], [] => True
  | op :: ops, o :: os => reportsInForce w op o ∧ allReport w ops os
  | _, _ => False

/-- a schedule run on a cell that holds `w` leaves `w` there and every operation reports it -/
theorem run_set : ∀ (ops : List (OnceOp α)) (c : OnceCell α) (w : α), c.v = some w →
    (c.run ops).1.v = some w ∧ allReport w ops (c.run ops).2
  | [], _, _, h => ⟨h, trivial⟩
  | op :: ops, c, w, h => by
    obtain ⟨h1, h2⟩ := run_set ops _ w (step_keeps c w h op)
    exact ⟨h1, by cases op <;> simp [h, reportsInForce], h2⟩

theorem run_keeps (ops : List (OnceOp α)) : ∀ (c : OnceCell α) (w : α), c.v = some w →
    (c.run ops).1.v = some w := fun c w h => (run_set ops c w h).1

/-- **first-set-wins, for every schedule**: the first operation of the schedule fixes the value
(its own argument); the cell holds that value after every later operation, every later
`get_or_init` (setter-with-report or first use) reports it, and every later `set` fails with its own
argument. -/
theorem first_wins (first : OnceOp α) (rest : List (OnceOp α)) :
    let r := (OnceCell.run { v := none } (first :: rest))
    r.1.v = some first.arg ∧
    (match first with | .getOrInit x => r.2.head? = some (.value x) | .set _ => r.2.head? = some .setOk) ∧
    allReport first.arg rest r.2.tail := by
  intro r
  have hstep : ((OnceCell.step { v := none } first).1 : OnceCell α).v = some first.arg := by
    cases first <;> simp [OnceCell.step, OnceOp.arg]
  obtain ⟨h1, h2⟩ := run_set rest _ _ hstep
  exact ⟨h1, by cases first <;> simp [r, OnceCell.run, OnceCell.step], h2⟩

/-- the value never changes afterwards: any two prefixes of a schedule (of length ≥ 1) leave the
same value in the cell -/
theorem never_changes (first : OnceOp α) (mid tail : List (OnceOp α)) :
    (OnceCell.run { v := none } (first :: mid)).1.v =
    (OnceCell.run { v := none } (first :: (mid ++ tail))).1.v :=
  (first_wins first mid).1.trans (first_wins first (mid ++ tail)).1.symm

/-- the limit in force is the one every decoder applies: `safe_len` accepts exactly the declared
lengths up to it (all limits, 0 and usize::MAX included) -/
theorem limit_enforced (lim n : Nat) : (safeLen lim n = .ok n ↔ n ≤ lim) ∧ (n > lim → safeLen lim n = .error .allocLimit) := by
  unfold safeLen
  split <;> simp_all

/-- a pure read of a cell (`OnceLock::get`, a non-initialising getter) changes nothing and, at any point of any
schedule, sees either nothing (no operation yet) or the first operation's value - never a loser's proposal -/
theorem peek_sees_winner (ops : List (OnceOp α)) :
    (OnceCell.run ({ v := none } : OnceCell α) ops).1.v = (ops.head?).map OnceOp.arg := by
  cases ops with
  | nil => rfl
  | cons first rest => simpa using (first_wins first rest).1

/-! ### instances re-checked against the current sources on every run (translator) -/

/-- every read of the allocation limit goes through the one cell with the one documented default
(the deprecated public wrapper in `lib.rs` forwards its caller's proposal) -/
theorem uniform_limit :
    Generated.limitReads.all (fun r =>
      r.2.2 == "DEFAULT_MAX_ALLOCATION_BYTES" || (r.1 == "avro/src/lib.rs" && r.2.2 == "num_bytes")) = true := by
  decide

/-- there is exactly one cell per setting (no second, separately initialised copy of a setting) -/
theorem one_cell_per_setting :
    Generated.onceCells.map Prod.fst =
      ["ENUM_SYMBOL_NAME_VALIDATOR_ONCE", "MAX_ALLOCATION_BYTES", "NAMESPACE_VALIDATOR_ONCE", "NAME_VALIDATOR_ONCE",
       "RECORD_FIELD_NAME_VALIDATOR_ONCE", "SCHEMATA_COMPARATOR_ONCE", "SERDE_HUMAN_READABLE"] := rfl

/-- …and no other write-once cell that holds a setting anywhere in the crate, module-level or local to a
function: the `OnceLock` statics holding a number, a flag or a boxed trait object are exactly these seven.  (Cells that
cache a computed value - the compiled name regexes, the CRC table - are not settings and are not pinned: a new cache
does not touch the property.) -/
theorem no_other_cell :
    (Generated.onceCellSites.filter (fun c => c.2.2 == "setting")).map (fun c => (c.1, c.2.1)) =
      [("ENUM_SYMBOL_NAME_VALIDATOR_ONCE", "avro/src/validator.rs"), ("MAX_ALLOCATION_BYTES", "avro/src/util.rs"),
       ("NAMESPACE_VALIDATOR_ONCE", "avro/src/validator.rs"), ("NAME_VALIDATOR_ONCE", "avro/src/validator.rs"),
       ("RECORD_FIELD_NAME_VALIDATOR_ONCE", "avro/src/validator.rs"), ("SCHEMATA_COMPARATOR_ONCE", "avro/src/schema_equality.rs"),
       ("SERDE_HUMAN_READABLE", "avro/src/util.rs")] := rfl

/-- the cells are only ever touched through the two atomic state-changing operations of the model
(`get_or_init`, `set`) and the pure read `get` (see `peek_sees_winner`) — no `take`, no `get_mut`, nothing that could
replace a value once set -/
theorem atomic_ops_only :
    Generated.onceCells.all (fun c => c.2.all (fun m => m == "get_or_init" || m == "set" || m == "get")) = true := by decide

/-- non-vacuity: three threads race `max_allocation_bytes(4096)`, a first use with the default, and
`max_allocation_bytes(1)`; the first wins -/
example : (OnceCell.run ({ v := none } : OnceCell Nat) [.getOrInit 4096, .getOrInit 536870912, .getOrInit 1]).2
    = [.value 4096, .value 4096, .value 4096] := by decide

end Avro.C19
