import AvroModel
import AvroProofs.Lemmas.Rabin
import AvroProofs.Lemmas.SpecEncode
/-!
# C18 — single-object messages carry the spec header and reject foreign messages

The constants (marker bytes, byte order, `EMPTY`) are re-extracted from the sources on every run and compared with the
specification's here; the fingerprint is the CRC-64-AVRO of `Lemmas/Rabin.lean`.
-/
namespace Avro.C18

/-- the constant in `rabin.rs` (re-extracted on every run) is the specification's `EMPTY` -/
theorem rabinEmpty_is_spec : Generated.rabinEmpty = 0xC15D213AA4D7A795 := by decide

/-- the marker bytes and the byte order read off `headers.rs` are the specification's -/
theorem marker_is_spec : Generated.singleObjectMarker = [0xC3, 0x01] ∧
    Generated.singleObjectFingerprintOrder = [0, 1, 2, 3, 4, 5, 6, 7] := by decide

/-- **header**: `C3 01` followed by the 8-byte little-endian CRC-64-AVRO (bit-serial definition)
of the canonical form -/
theorem header_spec (pcf : Bytes) :
    soHeader pcf = [0xC3, 0x01] ++ leBytes 8 (crc64Avro pcf).toNat := by
  unfold soHeader rabinDigest
  rw [rabin_eq_crc64]
  -- `leBytes 8 _` computes to its eight entries, which the extracted order takes one by one
  rfl

theorem header_length (pcf : Bytes) : (soHeader pcf).length = 10 := by
  rw [header_spec]; simp [leBytes_length]

/-- **writer invariant**: whatever happens in a call (value rejected, encoder fails, sink fails,
success) the buffer holds exactly the header again afterwards … -/
theorem write_restores (w : SoWriter) (enc : Option Bytes) (sinkOk : Bool) :
    (w.write enc sinkOk).1.buffer = w.buffer := by
  -- on every path the buffer is cut back to the length it had
  fun_cases SoWriter.write w enc sinkOk <;> simp +zetaDelta

theorem history_restores : ∀ (hist : List (Option Bytes × Bool)) (u : SoWriter),
    (hist.foldl (fun w c => (w.write c.1 c.2).1) u).buffer = u.buffer
  | [], _ => rfl
  | c :: cs, u => (history_restores cs _).trans (write_restores u c.1 c.2)

/-- … so for **every history** of calls on one writer, every successful call emits exactly
`header ++ datum` of *its own* value, independently of all earlier calls. -/
theorem so_history (pcf : Bytes) (hist : List (Option Bytes × Bool)) (e : Bytes) :
    let w0 : SoWriter := { buffer := soHeader pcf }
    let w := hist.foldl (fun w c => (w.write c.1 c.2).1) w0
    w.write (some e) true = ({ buffer := soHeader pcf }, soHeader pcf ++ e, some (10 + e.length)) := by
  intro w0 w
  have hb : w.buffer = soHeader pcf := history_restores hist w0
  simp [SoWriter.write, hb, header_length pcf]

/-- a successful message is independently decodable: the reader returns the value (C01) -/
theorem message_roundtrip (cfg : Cfg) (env : Names) (hl : cfg.lim < 2^63) (s : Schema) (v : Value)
    (hc : Conforms cfg env s v) (pcf : Bytes) :
    ∃ e n, ∀ fuel, n ≤ fuel → encode env fuel s v = .ok e ∧
      ∀ rest, soRead cfg env fuel s (soHeader pcf) (soHeader pcf ++ e ++ rest) = .ok (v, rest) := by
  obtain ⟨e, H⟩ := conforms_rt hl hc
  refine ⟨e, Ev.mono H fun fuel ⟨henc, hdec⟩ => ⟨henc, fun rest => ?_⟩⟩
  rw [soRead, List.append_assoc, takeExact_append]
  simp [hdec rest]

/-- **foreign messages**: a header that differs from the expected one (in any bit) is rejected
and nothing is decoded … -/
theorem reader_rejects (cfg : Cfg) (env : Names) (fuel : Nat) (s : Schema) (expected h rest : Bytes)
    (hlen : h.length = expected.length) (hne : h ≠ expected) :
    soRead cfg env fuel s expected (h ++ rest) = .error .mismatch := by
  unfold soRead
  rw [takeExact_append' expected.length h rest hlen]
  simp [hne]

/-- … and a message shorter than the header is an error -/
theorem reader_short (cfg : Cfg) (env : Names) (fuel : Nat) (s : Schema) (expected bs : Bytes)
    (h : bs.length < expected.length) : soRead cfg env fuel s expected bs = .error .eof := by
  unfold soRead
  rw [takeExact_short _ _ h]

/-- the crate's documented test vector, evaluated in the kernel -/
example : rabinDigest "hello world".toUTF8.toList = [0x60, 0x33, 0x5b, 0xa6, 0xd0, 0x41, 0x55, 0x28] := by decide +kernel

end Avro.C18
