import AvroModel
import AvroProofs.Lemmas.Container
import AvroProofs.Lemmas.SpecEncode
import AvroProofs.Lemmas.Prim
/-!
# C04 — object container files conform to the specified layout in both directions

`magic ++ metadata-map ++ marker ++ blocks`, each block `count ++ size ++ payload ++ marker`.
The metadata map is an Avro `map<bytes>` datum, so *any* specification-legal layout of it (several
blocks, negative counts, any entry order, unknown keys) is accepted because the datum decoder
accepts it (C02).
-/
namespace Avro.C04
open Avro.Spec

/-- the metadata entries as a `map<bytes>` value -/
def metaValue (es : List (Bytes × Bytes)) : Value := .map (es.map (fun kv => (kv.1, Value.bytes kv.2)))

theorem filterMap_meta (es : List (Bytes × Bytes)) :
    (es.map (fun kv => (kv.1, Value.bytes kv.2))).filterMap metaBytesOnly = es := by
  induction es with
  | nil => rfl
  | cons a tl ih => simp [metaBytesOnly, ih]

/-- **reader, header**: any specification-legal encoding `menc` of the metadata map — whatever
its block partitioning and whatever additional keys it holds — followed by a 16-byte marker is
accepted; the reader sees exactly the entries and the marker. -/
theorem header_accepted (cfg : Cfg) (hl : cfg.lim < 2^63) (h1 : 1 ≤ cfg.szValue) (h2 : 1 ≤ cfg.szEntry)
    (es : List (Bytes × Bytes)) (menc marker : Bytes) (hm : marker.length = 16)
    (hspec : SpecEnc cfg [] (.map .bytes) (metaValue es) menc) :
    ∃ n, ∀ fuel, n ≤ fuel → ∀ rest,
      readHeader cfg fuel (magic ++ menc ++ marker ++ rest) = .ok (es, marker, rest) := by
  refine Ev.mono (spec_dc hl h1 h2 primFacts hspec) fun fuel H rest => ?_
  unfold readHeader
  rw [List.append_assoc, List.append_assoc, takeExact_append' 4 magic _ rfl]
  simp only [ne_eq, not_true_eq_false, if_false, H, metaValue, takeExact_append' 16 marker rest hm, filterMap_meta]

/-- **reader, whole file**: a file laid out as the specification says — header as above, then
any number of well-formed blocks in any partitioning (one value per block, one block, …), any codec
with a round trip — is read to exactly its metadata, marker and values, ending cleanly. -/
theorem reader_accepts (cfg : Cfg) (codec : Codec) (env : Names) (schema : Schema)
    (hl : cfg.lim < 2^63) (h1 : 1 ≤ cfg.szValue) (h2 : 1 ≤ cfg.szEntry)
    (es : List (Bytes × Bytes)) (menc marker : Bytes) (hm : marker.length = 16)
    (hspec : SpecEnc cfg [] (.map .bytes) (metaValue es) menc)
    (hc : ∀ x, codec.decompress (codec.compress x) = .ok x)
    (blocks : List Items)
    (hblk : ∀ b ∈ blocks, b ≠ [] ∧ b.length < 2^63 ∧ (codec.compress b.payload).length ≤ cfg.lim ∧ Uniform b)
    (hdec : ∃ n, ∀ fuel, n ≤ fuel → ∀ b ∈ blocks, Decodes (decode cfg env fuel schema) b) :
    ∃ n, ∀ fuel, n ≤ fuel →
      readFile cfg codec env fuel schema (magic ++ menc ++ marker ++ blocks.flatMap (blockOf codec marker)) =
        .ok (es, marker, blocks.flatMap Items.values, .clean) := by
  refine Ev.mono (Ev.and (header_accepted cfg hl h1 h2 es menc marker hm hspec) hdec) fun fuel ⟨H1, H2⟩ => ?_
  have hall : ∀ b ∈ blocks, BlockOk cfg codec (decode cfg env fuel schema) b := fun b hb =>
    let ⟨a, b', c, d⟩ := hblk b hb
    ⟨a, b', c, hl, H2 b hb, d⟩
  simp only [readFile, H1, readBlocks_ok hm hc blocks hall]

theorem meta_entries {cfg : Cfg} (hl : cfg.lim < 2^63) : ∀ (l : List (Bytes × Bytes)),
    (∀ kv ∈ l, kv.1.length ≤ cfg.lim ∧ validUtf8 kv.1 = true ∧ kv.2.length ≤ cfg.lim) →
    SpecEntries cfg [] .bytes (l.map fun kv => (kv.1, Value.bytes kv.2)) (l.map fun kv => encBytes kv.1 ++ encBytes kv.2).flatten
  | [], _ => .nil
  | a :: tl, h => by
    obtain ⟨⟨a1, a2, a3⟩, htl⟩ := List.forall_mem_cons.mp h
    have := SpecEntries.cons a1 a2 (SpecEnc.bytes a3) (meta_entries hl tl htl)
    rw [Spec.long_eq_encLong_nat _ (by omega), Spec.long_eq_encLong_nat _ (by omega)] at this
    simpa [encBytes] using this

/-- **writer**: the header the writer emits is `magic`, a specification-legal `map<bytes>` holding
`avro.schema` (+ codec entries + user metadata), and the marker — provided the keys are distinct
valid UTF-8 strings within the limit. -/
theorem writer_header_spec (cfg : Cfg) (hl : cfg.lim < 2^63) (es : List (Bytes × Bytes)) (hne : es ≠ [])
    (hk : ∀ kv ∈ es, kv.1.length ≤ cfg.lim ∧ validUtf8 kv.1 = true ∧ kv.2.length ≤ cfg.lim)
    (hnd : (es.map Prod.fst).Nodup) (hlen : es.length ≤ cfg.lim) (hsz : es.length * cfg.szEntry ≤ cfg.lim) :
    SpecEnc cfg [] (.map .bytes) (metaValue es) (encMetaMap es) := by
  -- one block of all entries, then the end of the map
  have := SpecMapBlocks.pos (cfg := cfg) (env := []) (s := .bytes) (k := 0)
    (blk := es.map (fun kv => (kv.1, Value.bytes kv.2))) (more := [])
    (by simpa using hne) (meta_entries hl es hk) (by simpa using hlen) (by simpa using hsz) .done
  rw [List.length_map, Spec.long_eq_encLong_nat _ (by omega)] at this
  have hm := SpecEnc.map (by simpa using this) (by simpa [Function.comp_def] using hnd)
  simpa [encMetaMap, metaValue, hne] using hm

/-- … and therefore a file written by the library (any history, C03) is accepted by any reader
of the specification's layout: it *is* such a layout.  (`history_layout` gives
`sink = header ++ blocks` with `header = magic ++ encMetaMap … ++ marker`.) -/
theorem writer_layout (cfg : WCfg) (marker : Bytes) (ops : List WOp) (hok : RunOk cfg { marker := marker } ops) :
    ∃ g : Ghost, Inv cfg (Writer.run cfg { marker := marker } ops) g :=
  let ⟨g, hg, _⟩ := refines_run ops (refines_init cfg marker) hok
  ⟨g, hg⟩

end Avro.C04
