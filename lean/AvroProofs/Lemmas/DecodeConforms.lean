import AvroProofs.Lemmas.Reader
/-!
The induction behind C06: a successful decode yields a conforming value (`decodeStep_conforms`).  Before it, what the
big-decimal arm needs: the canonical encoding is minimal, so writing back what was read takes no more bytes.
-/
namespace Avro

section
variable {cfg : Cfg} {env : Names}

theorem ConformsAll.of_forall {s : Schema} : ∀ {vs : List Value}, (∀ v ∈ vs, Conforms cfg env s v) → ConformsAll cfg env s vs
  | [], _ => .nil
  | v :: vs, h => .cons (h v (by simp)) (ConformsAll.of_forall (fun x hx => h x (List.mem_cons_of_mem _ hx)))

theorem ConformsEntries.of_forall {s : Schema} : ∀ {es : List (Bytes × Value)},
    (∀ e ∈ es, e.1.length ≤ cfg.lim ∧ validUtf8 e.1 = true ∧ Conforms cfg env s e.2) →
    ConformsEntries cfg env s es
  | [], _ => .nil
  | (k, v) :: es, h =>
    have hh := h (k, v) (by simp)
    .cons hh.1 hh.2.1 hh.2.2 (ConformsEntries.of_forall (fun x hx => h x (List.mem_cons_of_mem _ hx)))

theorem decodeFields_conforms (f : Schema → Reader Value) :
    ∀ (fields : List (FieldMeta × Schema)), (∀ ms ∈ fields, Post (f ms.2) (Conforms cfg env ms.2)) →
      Post (decodeFieldsWith f fields) fun vfs =>
        ConformsFields cfg env fields vfs ∧ vfs.map Prod.fst = fields.map (fun x => x.1.name)
  | [], _ => fun bs vfs r h => by simp [decodeFieldsWith] at h; rw [h.1]; exact ⟨.nil, rfl⟩
  | (m, s) :: tl, hf => by
    rw [decodeFieldsWith_cons]
    refine (hf (m, s) (by simp)).bind fun v hv => ?_
    refine (decodeFields_conforms f tl fun ms hms => hf ms (List.mem_cons_of_mem _ hms)).bind fun vs hvs => ?_
    exact .ok ⟨.cons hv hvs.1, by simp [hvs.2]⟩

/-! ### the canonical encoding is minimal: writing back what was read takes no more bytes than were consumed -/

theorem encLong_minimal {bs r : Bytes} {n : Int} (h : decLong bs = .ok (n, r)) :
    (encLong n).length + r.length ≤ bs.length := by
  rw [decLong_eq, rbind_eq_ok] at h
  obtain ⟨z, r', hd, hr⟩ := h
  obtain ⟨⟨⟩, rfl⟩ := rret_eq_ok.mp hr
  obtain ⟨c, rfl, hc1, _, hz, hz64, _⟩ := decodeVar_ok hd
  have := (encodeVar_length_le_iff hz64 hc1).mpr hz
  rw [encLong, zig_zag z hz64, List.length_append]
  omega

theorem decBytes_ok {lim : Nat} {bs b r : Bytes} (h : decBytes lim bs = .ok (b, r)) :
    decLong bs = .ok ((b.length : Int), b ++ r) := by
  rw [decBytes_eq, rbind_eq_ok] at h
  obtain ⟨k, r1, hk, ht⟩ := h
  obtain ⟨rfl, rfl⟩ := takeExact_eq_ok.mp ht
  rw [decLen_eq, rbind_eq_ok] at hk
  obtain ⟨n, _, hn, hr⟩ := hk
  obtain ⟨hs, rfl⟩ := rret_eq_ok.mp hr
  split at hs
  · cases hs
  · rw [hn, (safeLen_eq_ok.mp hs).1]; congr 2; omega

theorem encBytes_minimal {lim : Nat} {bs b r : Bytes} (h : decBytes lim bs = .ok (b, r)) :
    (encBytes b).length + r.length ≤ bs.length := by
  have := encLong_minimal (decBytes_ok h)
  simp only [encBytes, List.length_append] at this ⊢
  omega

/-- num-bigint's canonical form of a magnitude is no longer than the magnitude read, except that the empty magnitude
(zero) is written back as one byte -/
theorem encBytes_canonical_len (hP : PrimFacts) (mag : Bytes) (h63 : mag.length < 2^63) :
    (encBytes (toSignedBE (fromSignedBE mag))).length ≤ max 2 (encBytes mag).length := by
  have hlen := hP.toSignedBE_fromSignedBE_len mag
  simp only [encBytes, List.length_append]
  by_cases hm0 : mag.length = 0
  · have hpre : (encLong ((toSignedBE (fromSignedBE mag)).length : Nat)).length ≤ 1 :=
      (encodeVar_length_le_iff (zig_lt _) (Nat.le_refl 1)).mpr (by rw [zig_nonneg _ (by omega)]; omega)
    omega
  · have := encLong_length_mono (toSignedBE (fromSignedBE mag)).length mag.length (by omega) h63
    omega

/-- `deserialize_big_decimal` succeeded on `b`: the canonical encoding of its result fits where `b` fits (12 bytes are
what zero with any scale needs) -/
theorem deserBigDecimal_len (hP : PrimFacts) {lim : Nat} {b : Bytes} {u sc : Int}
    (h : deserBigDecimal lim b = .ok (u, sc)) :
    fromSignedBE (toSignedBE u) = u ∧ i64ok sc ∧ (encBytes (toSignedBE u) ++ encLong sc).length ≤ max 12 b.length := by
  revert h
  fun_cases deserBigDecimal lim b <;> intro h <;> cases h
  rename_i mag r hq _ hq2
  have h1 := encBytes_minimal hq
  have h2 := encLong_minimal hq2
  have h3 := encBytes_canonical_len hP mag (by have := (post_decLong _ _ _ (decBytes_ok hq)).2; omega)
  have h4 := encLong_length_le sc
  refine ⟨hP.fromSignedBE_toSignedBE _, post_decLong _ _ _ hq2, ?_⟩
  simp only [List.length_append] at h1 ⊢
  omega

/-- `36 ≤ cfg.lim`: `Conforms` bounds the canonical encoding of the value, and what was read need not be canonical - a
big-decimal zero is written back in up to 12 bytes whatever was read, a uuid read from its 32-character form in 36.
`1 ≤ szValue`, `1 ≤ szEntry` turn the bound on the bytes of a collection into the bound on its length. -/
theorem decodeStep_conforms (hP : PrimFacts) (h1 : 1 ≤ cfg.szValue) (h2 : 1 ≤ cfg.szEntry)
    (hl36 : 36 ≤ cfg.lim) (henv : EnvOk env) {rec : Schema → Reader Value}
    (ih : ∀ s, wfS s = true → Post (rec s) (Conforms cfg env s)) (s : Schema) (hwf : wfS s = true) :
    Post (decodeStep cfg env rec s) (Conforms cfg env s) := by
  cases s with
  | null => exact Post.ok (b := Value.null) .null
  | boolean =>
    exact Post.trivial.bind fun b _ =>
      .ret_ite (fun _ => .ok (.boolean false)) fun _ => .ret_ite (fun _ => .ok (.boolean true)) fun _ => .error
  | int => exact post_decInt.bind fun n hn => .ok (.int hn)
  | date => exact post_decInt.bind fun n hn => .ok (.date hn)
  | timeMillis => exact post_decInt.bind fun n hn => .ok (.timeMillis hn)
  | long => exact post_decLong.bind fun n hn => .ok (.long hn)
  | longL k => exact post_decLong.bind fun n hn => .ok (.longL hn)
  | float => exact Post.trivial.bind fun _ _ => .ok (.float _)
  | double => exact Post.trivial.bind fun _ _ => .ok (.double _)
  | bytes => exact (post_decBytes _).bind fun b hb => .ok (.bytes hb)
  | string => exact (post_decString _).bind fun b hb => .ok (.string hb.1 hb.2)
  | fixed name size =>
    exact (post_decFixed _ _).bind fun b ⟨hlen, hle⟩ => .ret fun _ h => by cases h; subst hlen; exact .fixed hle
  | decimal pr sc inner =>
    cases inner with
    | bytes =>
      exact (post_decBytes _).bind fun b hb => .ok (.decimalBytes (hP.signExtend_fromSignedBE b) rfl hb)
    | fixed name size =>
      exact (post_decFixed _ _).bind fun b ⟨hlen, hle⟩ => .ret fun _ h => by
        cases h; subst hlen; exact .decimalFixed (hP.signExtend_fromSignedBE b) rfl hle
  | bigDecimal =>
    refine (post_decBytes _).bind fun b hb => ?_
    split
    · obtain ⟨hu, hsc, hlen⟩ := deserBigDecimal_len hP ‹_›
      exact .ok (.bigDecimal hu hsc (by omega))
    · exact .error
  | uuidString =>
    refine Post.trivial.bind fun b _ => ?_
    split
    · rename_i u hu
      obtain ⟨t1, t2, t3⟩ := hP.uuid_text u (hP.uuidParse_len b u hu)
      exact .ok (.uuidString t1 t2 (by omega))
    · exact .error
  | uuidBytes => exact (post_decBytes _).bind fun b hb => .ret_ite (fun h => .ok (.uuidBytes h (by omega))) fun _ => .error
  | uuidFixed name size =>
    refine (post_decFixed _ _).bind fun b ⟨hlen, hle⟩ => .ret_ite (fun _ => .error) fun h => ?_
    obtain rfl : size = 16 := by omega
    exact .ok (.uuidFixed hlen hle)
  | duration name size =>
    refine .ite (fun hs => ?_) fun _ => .error
    subst hs
    refine (post_takeExact 12).bind fun b hb => .ret fun _ h => ?_
    cases h
    have hle4 : ∀ l : Bytes, l.length ≤ 4 → ofLeBytes l < 2^32 := fun l hl =>
      Nat.lt_of_lt_of_le (ofLeBytes_lt l) (Nat.pow_le_pow_right (by omega) hl)
    exact .duration (hle4 _ (by simp; omega)) (hle4 _ (by simp; omega)) (hle4 _ (by simp; omega))
  | array inner =>
    have hwi : wfS inner = true := by simpa [wfS] using hwf
    exact (post_arrayBlocks (ih inner hwi)).bind fun items ⟨hall, hsz⟩ =>
      .ok (.array (ConformsAll.of_forall hall) (Nat.le_trans (Nat.le_mul_of_pos_right _ h1) hsz) hsz)
  | map inner =>
    have hwi : wfS inner = true := by simpa [wfS] using hwf
    have hentry : Post (decEntryWith cfg.lim (rec inner)) fun e =>
        e.1.length ≤ cfg.lim ∧ validUtf8 e.1 = true ∧ Conforms cfg env inner e.2 := by
      rw [decEntryWith_eq]
      exact (post_decString _).bind fun k hk => (ih inner hwi).bind fun v hv => .ok ⟨hk.1, hk.2, hv⟩
    exact (post_mapBlocks hentry).bind fun es ⟨⟨hnd, hall⟩, hsz⟩ =>
      .ok (.map (ConformsEntries.of_forall hall) hnd (Nat.le_trans (Nat.le_mul_of_pos_right _ h2) hsz) hsz)
  | union branches =>
    have hwu : branches.length < 2^32 ∧ wfList branches = true := by simpa [wfS] using hwf
    refine Post.trivial.bind fun idx _ => .ite (fun _ => .error) fun _ => ?_
    split
    · exact .error
    · rename_i b hb
      refine (ih b (wfList_mem hwu.2 hb)).bind fun v hv => .ret fun _ h => ?_
      cases h
      have hlt : idx.toNat < branches.length := (List.getElem?_eq_some_iff.mp hb).1
      rw [Nat.mod_eq_of_lt (by omega)]
      exact .union hb (by omega) hv
  | record name fields =>
    have hwr : (fields.map (fun f => f.1.name)).Nodup ∧ wfFields fields = true := by simpa [wfS] using hwf
    exact (decodeFields_conforms _ fields fun ms hms => ih ms.2 (wfFields_mem hwr.2 hms)).bind
      fun vfs hv => .ok (.record hv.1 (by rw [hv.2]; exact hwr.1))
  | «enum» name syms d =>
    refine post_decInt.bind fun i hi => .ret_ite (fun _ => .error) fun _ => ?_
    split
    · exact .ok (.enum ‹_› (by have := hi.2; omega))
    · exact .error
  | ref n =>
    simp only [decodeStep]
    split
    · rename_i s' hf
      obtain ⟨hnr, hws⟩ := henv n s' hf
      exact fun bs v r h => .ref hf hnr (ih s' hws bs v r h)
    · exact .error

theorem decode_conforms_aux (hP : PrimFacts) (h1 : 1 ≤ cfg.szValue) (h2 : 1 ≤ cfg.szEntry)
    (hl36 : 36 ≤ cfg.lim) (henv : EnvOk env) :
    ∀ (fuel : Nat) (s : Schema), wfS s = true → Post (decode cfg env fuel s) (Conforms cfg env s)
  | 0, _, _ => fun _ _ _ h => by cases h
  | fuel+1, s, hwf => by
    rw [decode_succ]
    exact decodeStep_conforms hP h1 h2 hl36 henv (decode_conforms_aux hP h1 h2 hl36 henv fuel) s hwf

end
end Avro
