import AvroModel.Conforms
import AvroProofs.Lemmas.Varint
/-!
What the primitive readers do on what the primitive writers wrote (`takeExact`, little-endian bytes, lengths, block
counts), the range of `zag`, the two allocation guards as iffs, the members of a well-formed schema, and `HashMap::insert`.
-/
namespace Avro

theorem takeExact_append (b rest : Bytes) : takeExact b.length (b ++ rest) = .ok (b, rest) := by
  induction b with
  | nil => cases rest <;> simp [takeExact]
  | cons x xs ih => simp [takeExact, ih]

theorem takeExact_append' (n : Nat) (b rest : Bytes) (h : b.length = n) :
    takeExact n (b ++ rest) = .ok (b, rest) := by
  subst h; exact takeExact_append b rest

theorem takeExact_short : ∀ (n : Nat) (bs : Bytes), bs.length < n → takeExact n bs = .error .eof := by
  intro n
  induction n with
  | zero => intro bs h; omega
  | succ n ih =>
    intro bs h
    cases bs with
    | nil => simp [takeExact]
    | cons x xs =>
      simp only [takeExact]
      rw [ih xs (by simp at h; omega)]

theorem takeExact_eq_ok {n : Nat} {bs b r : Bytes} : takeExact n bs = .ok (b, r) ↔ b.length = n ∧ bs = b ++ r := by
  constructor
  · intro h
    fun_induction takeExact n bs generalizing b <;> cases h
    next => exact ⟨rfl, rfl⟩
    next ih hq => obtain ⟨h1, h2⟩ := ih hq; exact ⟨congrArg (· + 1) h1, congrArg (_ :: ·) h2⟩
  · rintro ⟨rfl, rfl⟩; exact takeExact_append b r

theorem leBytes_length (k n : Nat) : (leBytes k n).length = k := by
  induction k generalizing n with
  | zero => simp [leBytes]
  | succ k ih => simp [leBytes, ih]

theorem ofLeBytes_leBytes (k n : Nat) : ofLeBytes (leBytes k n) = n % 256^k := by
  induction k generalizing n with
  | zero => simp [leBytes, ofLeBytes, Nat.mod_one]
  | succ k ih =>
    simp only [leBytes, ofLeBytes, ih]
    rw [UInt8.toNat_ofNat_of_lt' (Nat.mod_lt _ (by decide))]
    rw [Nat.pow_succ, Nat.mul_comm (256^k) 256, Nat.mod_mul]

theorem ofLeBytes_leBytes_lt {k n : Nat} (h : n < 2^(8*k)) : ofLeBytes (leBytes k n) = n := by
  rw [ofLeBytes_leBytes, Nat.mod_eq_of_lt (by rwa [show 256 = 2^8 from rfl, ← Nat.pow_mul])]

theorem ofLeBytes_lt (bs : Bytes) : ofLeBytes bs < 256^bs.length := by
  induction bs with
  | nil => simp [ofLeBytes]
  | cons b bs ih =>
    simp only [ofLeBytes, List.length_cons, Nat.pow_succ]
    have := b.toNat_lt
    omega

theorem ofLeBytes_append (xs ys : Bytes) : ofLeBytes (xs ++ ys) = ofLeBytes xs + 256^xs.length * ofLeBytes ys := by
  induction xs with
  | nil => simp [ofLeBytes]
  | cons x xs ih =>
    simp only [List.cons_append, ofLeBytes, ih, List.length_cons, Nat.pow_succ]
    rw [Nat.mul_add, ← Nat.mul_assoc, Nat.mul_comm 256 (256^xs.length)]
    omega

theorem leBytes_ofLeBytes (bs : Bytes) : leBytes bs.length (ofLeBytes bs) = bs := by
  induction bs with
  | nil => rfl
  | cons b bs ih =>
    simp only [List.length_cons, leBytes, ofLeBytes]
    have hb := b.toNat_lt
    have h1 : (b.toNat + 256 * ofLeBytes bs) % 256 = b.toNat := by omega
    have h2 : (b.toNat + 256 * ofLeBytes bs) / 256 = ofLeBytes bs := by omega
    rw [h1, h2, ih]
    simp

theorem zag_range (z : Nat) : i64ok (zag z) := by
  unfold zag i64ok
  have h1 := BitVec.le_toInt (zagBV (BitVec.ofNat 64 z))
  have h2 := BitVec.toInt_lt (x := zagBV (BitVec.ofNat 64 z))
  exact ⟨by simpa using h1, by simpa using h2⟩

theorem safeLen_ok {lim n : Nat} (h : n ≤ lim) : safeLen lim n = .ok n := by
  simp [safeLen, h]

theorem safeLen_eq_ok {lim n k : Nat} : safeLen lim n = .ok k ↔ k = n ∧ n ≤ lim := by
  unfold safeLen; split <;> simp_all [eq_comm] <;> omega

theorem safeLen_le {lim n k : Nat} (h : safeLen lim n = .ok k) : k ≤ lim := by
  obtain ⟨rfl, hle⟩ := safeLen_eq_ok.mp h; exact hle

theorem decLen_encLong (lim n : Nat) (h : n ≤ lim) (hl : lim < 2^63) (rest : Bytes) :
    decLen lim (encLong n ++ rest) = .ok (n, rest) := by
  unfold decLen
  rw [decLong_encLong (n : Int) (by omega) (by omega)]
  have : ¬ ((n : Int) < 0) := by omega
  simp [this, safeLen, h]

theorem readUsize_encLong (n : Nat) (h : n < 2^63) (rest : Bytes) :
    readUsize (encLong n ++ rest) = .ok (n, rest) := by
  unfold readUsize
  rw [decLong_encLong (n : Int) (by omega) (by omega)]
  have : ¬ ((n : Int) < 0) := by omega
  simp [this]

theorem decBytes_encBytes (lim : Nat) (b : Bytes) (h : b.length ≤ lim) (hl : lim < 2^63) (rest : Bytes) :
    decBytes lim (encBytes b ++ rest) = .ok (b, rest) := by
  unfold decBytes encBytes
  rw [List.append_assoc, decLen_encLong lim b.length h hl]
  simp [takeExact_append]

theorem decString_encBytes (lim : Nat) (b : Bytes) (h : b.length ≤ lim) (hl : lim < 2^63)
    (hu : validUtf8 b = true) (rest : Bytes) :
    decString lim (encBytes b ++ rest) = .ok (b, rest) := by
  unfold decString
  rw [decBytes_encBytes lim b h hl]
  simp [hu]

theorem decFixed_append (lim : Nat) (b : Bytes) (h : b.length ≤ lim) (rest : Bytes) :
    decFixed lim b.length (b ++ rest) = .ok (b, rest) := by
  unfold decFixed
  simp [safeLen, h, takeExact_append]

theorem decSeqLen_pos (lim n : Nat) (hn : 0 < n) (h : n ≤ lim) (hl : lim < 2^63) (rest : Bytes) :
    decSeqLen lim (encLong n ++ rest) = .ok (n, rest) := by
  unfold decSeqLen
  rw [decLong_encLong (n : Int) (by omega) (by omega)]
  have h2 : ¬ ((n : Int) < 0) := by omega
  have h3 : ¬ (n = 0) := by omega
  simp [h2, h3, safeLen, h]

theorem decSeqLen_zero (lim : Nat) (rest : Bytes) : decSeqLen lim (0 :: rest) = .ok (0, rest) := rfl

theorem decSeqLen_neg (lim n sz : Nat) (hn : 0 < n) (h : n ≤ lim) (hl : lim < 2^63) (hsz : sz < 2^63) (rest : Bytes) :
    decSeqLen lim (encLong (-(n : Int)) ++ (encLong sz ++ rest)) = .ok (n, rest) := by
  unfold decSeqLen
  rw [decLong_encLong (-(n : Int)) (by omega) (by omega)]
  have h1 : ¬ (-(n : Int) = 0) := by omega
  have h2 : (-(n : Int) < 0) := by omega
  simp only [h1, if_false, h2, if_true]
  rw [decLong_encLong (sz : Int) (by omega) (by omega)]
  have h3 : ¬ (-(n : Int) = -9223372036854775808) := by omega
  simp [h3, safeLen, h]

/-- every block header is at least one byte -/
theorem decSeqLen_reads_pos {lim n : Nat} {c : Bytes} (h : ∀ r, decSeqLen lim (c ++ r) = .ok (n, r)) : 0 < c.length := by
  cases c with
  | nil => cases h []
  | cons _ _ => simp

/-- `safe_collection_len` cannot be defeated by overflow: it accepts iff the byte size fits in a `usize` and is within the
limit -/
theorem safeCollectionLen_eq_ok {lim sz total : Nat} {u : Unit} :
    safeCollectionLen lim sz total = .ok u ↔ total * sz < 2^64 ∧ total * sz ≤ lim := by
  unfold safeCollectionLen
  by_cases h1 : total * sz ≥ 2^64
  · simp [h1]; omega
  · by_cases h2 : total * sz ≤ lim
    · simp [h1, h2]; omega
    · simp [h1, h2]

theorem wfList_mem : ∀ {bs : List Schema} {i : Nat} {b : Schema}, wfList bs = true → bs[i]? = some b → wfS b = true
  | [], _, _, _, h => by simp at h
  | s :: ss, 0, b, hw, h => by
    simp [wfList] at hw; simp at h; rw [← h]; exact hw.1
  | s :: ss, i+1, b, hw, h => by
    simp [wfList] at hw; simp at h; exact wfList_mem hw.2 h

theorem wfFields_mem : ∀ {fs : List (FieldMeta × Schema)} {ms : FieldMeta × Schema},
    wfFields fs = true → ms ∈ fs → wfS ms.2 = true
  | [], _, _, h => by cases h
  | (m, s) :: fs, ms, hw, h => by
    simp [wfFields] at hw
    rcases List.mem_cons.mp h with rfl | h
    · exact hw.1
    · exact wfFields_mem hw.2 h

/-! ### `HashMap::insert` -/

theorem mapInsert_mem (m : List (Bytes × Value)) (k : Bytes) (v : Value) :
    ∀ e ∈ mapInsert m k v, e ∈ m ∨ e = (k, v) := by
  induction m with
  | nil => intro e he; simp [mapInsert] at he; exact Or.inr he
  | cons a tl ih =>
    obtain ⟨k', v'⟩ := a
    intro e he
    simp only [mapInsert] at he
    split at he
    · rcases List.mem_cons.mp he with rfl | he
      · exact Or.inr rfl
      · exact Or.inl (List.mem_cons_of_mem _ he)
    · rcases List.mem_cons.mp he with rfl | he
      · exact Or.inl (by simp)
      · rcases ih e he with h | h
        · exact Or.inl (List.mem_cons_of_mem _ h)
        · exact Or.inr h

theorem mapInsert_nodup (m : List (Bytes × Value)) (k : Bytes) (v : Value)
    (h : (m.map Prod.fst).Nodup) : ((mapInsert m k v).map Prod.fst).Nodup := by
  induction m with
  | nil => simp [mapInsert]
  | cons a tl ih =>
    obtain ⟨k', v'⟩ := a
    simp only [List.map_cons, List.nodup_cons] at h
    simp only [mapInsert]
    split
    · rename_i heq
      subst heq
      simpa using h
    · rename_i hne
      simp only [List.map_cons, List.nodup_cons]
      refine ⟨fun hin => ?_, ih h.2⟩
      obtain ⟨e, he, rfl⟩ := List.mem_map.mp hin
      rcases mapInsert_mem tl k v e he with h' | h'
      · exact h.1 (List.mem_map.mpr ⟨e, h', rfl⟩)
      · exact hne (by rw [h'])

theorem mapInsert_length (m : List (Bytes × Value)) (k : Bytes) (v : Value) :
    (mapInsert m k v).length ≤ m.length + 1 := by
  induction m with
  | nil => simp [mapInsert]
  | cons a tl ih =>
    obtain ⟨k', v'⟩ := a
    simp only [mapInsert]
    split <;> simp <;> omega

theorem mapInsert_fresh (acc : List (Bytes × Value)) (k : Bytes) (v : Value)
    (h : k ∉ acc.map Prod.fst) : mapInsert acc k v = acc ++ [(k, v)] := by
  induction acc with
  | nil => simp [mapInsert]
  | cons a tl ih =>
    obtain ⟨k', v'⟩ := a
    simp only [List.map_cons, List.mem_cons, not_or] at h
    have hne : ¬ (k' = k) := fun e => h.1 e.symm
    simp [mapInsert, hne, ih h.2]

end Avro
