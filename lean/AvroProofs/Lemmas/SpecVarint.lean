import AvroModel.Spec.Encoding
import AvroProofs.Lemmas.Varint
/-! The crate's zig-zag/varint code computes the specification's arithmetic encoding. -/
namespace Avro

theorem encodeVarAux_eq_spec (fuel : Nat) : ∀ z, z < 128^fuel → 0 < fuel → encodeVarAux fuel z = Spec.varint z := by
  induction fuel with
  | zero => intro z _ h; omega
  | succ fuel ih =>
    intro z hz _
    rw [encodeVarAux_succ, Spec.varint]
    by_cases h : z < 128
    · rw [if_pos h, dif_pos h]
    · rw [Nat.pow_succ, Nat.mul_comm] at hz
      rw [if_neg h, dif_neg h, ih _ (Nat.div_lt_of_lt_mul hz) (Nat.pos_of_ne_zero fun h0 => by subst h0; omega)]

theorem Spec.long_eq_encLong {n : Int} (h : i64ok n) : Spec.long n = encLong n := by
  have hz : Spec.zigzag n = zig n := by
    obtain ⟨h1, h2⟩ := h
    unfold Spec.zigzag
    by_cases hn : 0 ≤ n
    · obtain ⟨k, rfl⟩ := Int.eq_ofNat_of_zero_le hn
      rw [if_pos hn, zig_nonneg k (by omega)]; omega
    · obtain ⟨m, rfl⟩ : ∃ m : Nat, n = -((m : Int) + 1) := ⟨(-n - 1).toNat, by omega⟩
      rw [if_neg hn, zig_neg m (by omega)]; omega
  unfold Spec.long encLong encodeVar
  rw [hz]
  exact (encodeVarAux_eq_spec 10 _ (Nat.lt_of_lt_of_le (zig_lt n) (by decide)) (by omega)).symm

theorem Spec.long_eq_encLong_i32 {n : Int} (h : i32ok n) : Spec.long n = encLong n :=
  Spec.long_eq_encLong ⟨by have := h.1; omega, by have := h.2; omega⟩

theorem Spec.long_eq_encLong_nat (n : Nat) (h : n < 2^63) : Spec.long (n : Int) = encLong (n : Int) :=
  Spec.long_eq_encLong ⟨by omega, by omega⟩

end Avro

