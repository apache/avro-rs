import AvroProofs.Lemmas.SpecDecode
import AvroProofs.Lemmas.Prim
/-!
C01 and C02, forward direction.  For a conforming value there is ONE byte string with three faces: the model encoder
writes it, the specification relation accepts it (a single positive-count block per array / map), and the model
decoder reads it back.  `conforms_full` proves the three together by one induction over `Conforms`; the round trip
(`conforms_rt`) and the soundness of the encoder (`conforms_es`) are its projections.
-/
namespace Avro
open Avro.Spec

section
variable {cfg : Cfg} {env : Names}

/-- `bs` is what the encoder writes for `v`, a specification-legal encoding of `v`, and read back as `v` -/
structure Full (cfg : Cfg) (env : Names) (s : Schema) (v : Value) (bs : Bytes) : Prop where
  enc : Ev fun fuel => encode env fuel s v = .ok bs
  spec : SpecEnc cfg env s v bs
  dec : DC cfg env s v bs

structure FullItems (cfg : Cfg) (env : Names) (s : Schema) (vs : List Value) (bs : Bytes) : Prop where
  enc : Ev fun fuel => concatMapE (encode env fuel s) vs = .ok bs
  spec : SpecItems cfg env s vs bs
  dec : DCItems cfg env s vs bs

structure FullEntries (cfg : Cfg) (env : Names) (s : Schema) (es : List (Bytes × Value)) (bs : Bytes) : Prop where
  enc : Ev fun fuel => concatMapE (encEntryWith (encode env fuel s)) es = .ok bs
  spec : SpecEntries cfg env s es bs
  dec : DCEntries cfg env s es bs

structure FullFields (cfg : Cfg) (env : Names) (fs : List (FieldMeta × Schema)) (vs : List (Bytes × Value))
    (bs : Bytes) : Prop where
  enc : Ev fun fuel => ∀ all : List (Bytes × Value), (∀ kv ∈ vs, lookupLast all kv.1 = some kv.2) →
    encodeFieldsWith (encode env fuel) fs all = .ok bs
  spec : SpecFields cfg env fs vs bs
  dec : DCFields cfg env fs vs bs

theorem u32AsI32_small {i : Nat} (h : i < 2^31) : u32AsI32 i = i := by
  unfold u32AsI32
  rw [BitVec.toInt_eq_toNat_bmod, BitVec.toNat_ofNat, Nat.mod_eq_of_lt (by omega)]
  apply Int.bmod_eq_of_le <;> omega

theorem deref_notRef {s : Schema} (h : notRef s) : deref env s = .ok s := by
  unfold deref; split
  · exact h.elim
  · rfl

theorem encode_ref {n : Bytes} {s : Schema} (v : Value) (f : Nat)
    (h : env.find? n = some s) (hs : notRef s) :
    encode env (f+1) (.ref n) v = encode env (f+1) s v := by
  have : deref env (.ref n) = deref env s := by rw [deref_notRef hs]; simp only [deref, h]
  unfold encode; rw [this]

theorem lookupLast_none {l : List (Bytes × Value)} {k : Bytes} (h : k ∉ l.map Prod.fst) : lookupLast l k = none := by
  induction l with
  | nil => rfl
  | cons a l ih =>
    simp only [List.map_cons, List.mem_cons, not_or] at h
    simp [lookupLast, ih h.2, Ne.symm h.1]

theorem lookupLast_of_mem {all : List (Bytes × Value)} (hn : (all.map Prod.fst).Nodup) :
    ∀ kv ∈ all, lookupLast all kv.1 = some kv.2 := by
  induction all with
  | nil => intro kv h; cases h
  | cons hd tl ih =>
    intro kv hkv
    simp only [List.map_cons, List.nodup_cons] at hn
    rw [lookupLast]
    rcases List.mem_cons.mp hkv with rfl | hmem
    · simp [lookupLast_none hn.1]
    · rw [ih hn.2 kv hmem]

/-- a leaf: the encoder does not recurse -/
theorem Full.leaf {s : Schema} {v : Value} {enc : Bytes} (he : ∀ f, encode env (f+1) s v = .ok enc)
    (hs : SpecEnc cfg env s v enc) (hd : DC cfg env s v enc) : Full cfg env s v enc :=
  ⟨Ev.of_succ he, hs, hd⟩

theorem Full.union {bs : List Schema} {i : Nat} {b : Schema} {v : Value} (h : bs[i]? = some b) (hi : i < 2^32) :
    (∃ enc, Full cfg env b v enc) → ∃ enc, Full cfg env (.union bs) (.union i v) enc
  | ⟨enc, he, hs, hd⟩ =>
    ⟨Spec.long i ++ enc, he.succ fun f H => by simp [encode, deref, h, H, Spec.long_eq_encLong_nat i (by omega)],
      .union h hi hs, dc_union h hi hd⟩

theorem Full.ref {n : Bytes} {s : Schema} {v : Value} (h : env.find? n = some s) (hs : notRef s) :
    (∃ enc, Full cfg env s v enc) → ∃ enc, Full cfg env (.ref n) v enc
  | ⟨enc, he, hsp, hd⟩ =>
    ⟨enc, he.mono fun f H => by
        cases f with
        | zero => simp [encode] at H
        | succ f => rw [encode_ref v f h hs]; exact H,
      .ref h hs hsp, dc_ref h hd⟩

theorem Full.record {name : Bytes} {fields : List (FieldMeta × Schema)} {vfs : List (Bytes × Value)}
    (hn : (vfs.map Prod.fst).Nodup) :
    (∃ enc, FullFields cfg env fields vfs enc) → ∃ enc, Full cfg env (.record name fields) (.record vfs) enc
  | ⟨enc, he, hs, hd⟩ =>
    ⟨enc, he.succ fun f H => by simp only [encode, deref]; exact H vfs (lookupLast_of_mem hn), .record hs, dc_record hd⟩

/-- the encoder writes an array as one block with a positive count (or the end marker alone) -/
theorem Full.array {inner : Schema} {items : List Value} (hl : cfg.lim < 2^63) (h1 : items.length ≤ cfg.lim)
    (h2 : items.length * cfg.szValue ≤ cfg.lim) :
    (∃ enc, FullItems cfg env inner items enc) → ∃ enc, Full cfg env (.array inner) (.array items) enc
  | ⟨enc, he, hs, hd⟩ => by
    by_cases hemp : items = []
    · subst hemp
      exact ⟨[0], .leaf (fun _ => rfl) (.array .done) (dc_array dcblocks_done)⟩
    · have hne : items.isEmpty = false := by cases items <;> simp_all
      refine ⟨Spec.long items.length ++ enc ++ [0],
        he.succ fun f H => by simp [encode, deref, hne, H, Spec.long_eq_encLong_nat items.length (by omega)], ?_, ?_⟩
      · simpa using SpecEnc.array (SpecBlocks.pos (k := 0) (more := []) hemp hs h1 (by simpa using h2) .done)
      · simpa using dc_array (dcblocks_block (k := 0) (more := []) hl .pos hemp hd h1 (by simpa using h2) (by omega)
          dcblocks_done)

theorem Full.map {inner : Schema} {es : List (Bytes × Value)} (hl : cfg.lim < 2^63) (hn : (es.map Prod.fst).Nodup)
    (h1 : es.length ≤ cfg.lim) (h2 : es.length * cfg.szEntry ≤ cfg.lim) :
    (∃ enc, FullEntries cfg env inner es enc) → ∃ enc, Full cfg env (.map inner) (.map es) enc
  | ⟨enc, he, hs, hd⟩ => by
    by_cases hemp : es = []
    · subst hemp
      exact ⟨[0], .leaf (fun _ => rfl) (.map .done (by simp)) (dc_map dcmapblocks_done (by simp))⟩
    · have hne : es.isEmpty = false := by cases es <;> simp_all
      refine ⟨Spec.long es.length ++ enc ++ [0],
        he.succ fun f H => by simp [encode, deref, hne, H, Spec.long_eq_encLong_nat es.length (by omega)], ?_, ?_⟩
      · simpa using SpecEnc.map (SpecMapBlocks.pos (k := 0) (more := []) hemp hs h1 (by simpa using h2) .done)
          (by simpa using hn)
      · simpa using dc_map (dcmapblocks_block (k := 0) (more := []) hl .pos hemp hd h1 (by simpa using h2) (by omega)
          dcmapblocks_done) (by simpa using hn)

theorem FullItems.nil {s : Schema} : ∃ enc, FullItems cfg env s [] enc :=
  ⟨[], Ev.of_forall fun _ => by simp [concatMapE], .nil, dcitems_nil⟩

theorem FullItems.cons {s : Schema} {v : Value} {vs : List Value} :
    (∃ enc, Full cfg env s v enc) → (∃ enc, FullItems cfg env s vs enc) → ∃ enc, FullItems cfg env s (v :: vs) enc
  | ⟨e1, he1, hs1, hd1⟩, ⟨e2, he2, hs2, hd2⟩ =>
    ⟨e1 ++ e2, (he1.and he2).mono fun f ⟨H1, H2⟩ => by simp [concatMapE, H1, H2], .cons hs1 hs2, dcitems_cons hd1 hd2⟩

theorem FullEntries.nil {s : Schema} : ∃ enc, FullEntries cfg env s [] enc :=
  ⟨[], Ev.of_forall fun _ => by simp [concatMapE], .nil, dcentries_nil⟩

theorem FullEntries.cons {s : Schema} {k : Bytes} {v : Value} {es : List (Bytes × Value)} (hl : cfg.lim < 2^63)
    (hk : k.length ≤ cfg.lim) (hu : validUtf8 k = true) :
    (∃ enc, Full cfg env s v enc) → (∃ enc, FullEntries cfg env s es enc) →
      ∃ enc, FullEntries cfg env s ((k, v) :: es) enc
  | ⟨e1, he1, hs1, hd1⟩, ⟨e2, he2, hs2, hd2⟩ =>
    ⟨Spec.long k.length ++ k ++ e1 ++ e2,
      (he1.and he2).mono fun f ⟨H1, H2⟩ => by
        simp [concatMapE, encEntryWith, H1, H2, encBytes, Spec.long_eq_encLong_nat k.length (by omega)],
      .cons hk hu hs1 hs2, dcentries_cons hl hk hu hd1 hd2⟩

theorem FullFields.nil : ∃ enc, FullFields cfg env [] [] enc :=
  ⟨[], Ev.of_forall fun _ all _ => by simp [encodeFieldsWith], .nil, dcfields_nil⟩

theorem FullFields.cons {m : FieldMeta} {s : Schema} {v : Value} {fs : List (FieldMeta × Schema)}
    {vs : List (Bytes × Value)} :
    (∃ enc, Full cfg env s v enc) → (∃ enc, FullFields cfg env fs vs enc) →
      ∃ enc, FullFields cfg env ((m, s) :: fs) ((m.name, v) :: vs) enc
  | ⟨e1, he1, hs1, hd1⟩, ⟨e2, he2, hs2, hd2⟩ =>
    ⟨e1 ++ e2, (he1.and he2).mono fun f ⟨H1, H2⟩ all hall => by
        have hm : lookupField all m = some v := by
          unfold lookupField
          rw [hall (m.name, v) (by simp)]
        simp [encodeFieldsWith, hm, H1, H2 all fun kv hkv => hall kv (by simp [hkv])],
      .cons hs1 hs2, dcfields_cons hd1 hd2⟩

/-! ### the induction over `Conforms`

Written as one application of the recursor of `Conforms` / `ConformsAll` / `ConformsEntries` / `ConformsFields`: structural
recursion over this mutual family, compiled through `brecOn`, is some thirty times dearer to check than the recursor
itself.  The minor premises of the three companions share their names (`nil`, `cons`) and are given by position. -/

theorem conforms_full (hl : cfg.lim < 2^63) (hP : PrimFacts) {s : Schema} {v : Value} (hc : Conforms cfg env s v) :
    ∃ enc, Full cfg env s v enc :=
  hc.rec (motive_1 := fun s v _ => ∃ enc, Full cfg env s v enc)
    (motive_2 := fun s vs _ => ∃ enc, FullItems cfg env s vs enc)
    (motive_3 := fun s es _ => ∃ enc, FullEntries cfg env s es enc)
    (motive_4 := fun fs vs _ => ∃ enc, FullFields cfg env fs vs enc)
    (null := ⟨_, .leaf (fun _ => rfl) .null dc_null⟩)
    (boolean := fun b => ⟨_, .leaf (fun _ => rfl) (.boolean b) (dc_boolean b)⟩)
    (int := fun h => ⟨_, .leaf (by intro f; simp [encode, deref, encInt, Spec.long_eq_encLong_i32 h]) (.int h) (dc_int h)⟩)
    (date := fun h => ⟨_, .leaf (by intro f; simp [encode, deref, encInt, Spec.long_eq_encLong_i32 h]) (.date h) (dc_date h)⟩)
    (timeMillis := fun h => ⟨_, .leaf (by intro f; simp [encode, deref, encInt, Spec.long_eq_encLong_i32 h]) (.timeMillis h) (dc_timeMillis h)⟩)
    (long := fun h => ⟨_, .leaf (by intro f; simp [encode, deref, Spec.long_eq_encLong h]) (.long h) (dc_long h)⟩)
    (longL := fun h => ⟨_, .leaf (by intro f; simp [encode, deref, Spec.long_eq_encLong h]) (.longL h) (dc_longL h)⟩)
    (float := fun b => ⟨_, .leaf (fun _ => rfl) (.float b) (dc_float b)⟩)
    (double := fun b => ⟨_, .leaf (fun _ => rfl) (.double b) (dc_double b)⟩)
    (bytes := fun {b} h =>
      ⟨_, .leaf (by intro f; simp [encode, deref, encBytes, Spec.long_eq_encLong_nat b.length (by omega)]) (.bytes h) (dc_bytes hl h)⟩)
    (string := fun {u} h hu =>
      ⟨_, .leaf (by intro f; simp [encode, deref, encBytes, Spec.long_eq_encLong_nat u.length (by omega)]) (.string h hu)
        (dc_string hl h hu)⟩)
    (fixed := fun h => ⟨_, .leaf (fun _ => rfl) (.fixed h) (dc_fixed h)⟩)
    («enum» := fun {_ _ _ i _} h hi =>
      ⟨_, .leaf (by intro f; simp [encode, deref, u32AsI32_small hi, encInt, Spec.long_eq_encLong_nat i (by omega)]) (.enum h hi)
        (dc_enum h hi)⟩)
    (union := fun h hi _ ih => Full.union h hi ih)
    (array := fun _ h1 h2 ih => Full.array hl h1 h2 ih)
    (map := fun _ hn h1 h2 ih => Full.map hl hn h1 h2 ih)
    (record := fun _ hn ih => Full.record hn ih)
    (decimalFixed := fun {_ _ _ _ b} h1 h2 h3 =>
      ⟨b, .leaf (by intro f; simp [encode, deref, h1]) (.decimalFixed h2 h3) (dc_decimalFixed h2 h3)⟩)
    (decimalBytes := fun {_ _ _ b} h1 h2 h3 =>
      ⟨_, .leaf (by intro f; simp [encode, deref, h1, encBytes, Spec.long_eq_encLong_nat b.length (by omega)]) (.decimalBytes h2 h3)
        (dc_decimalBytes hl h2 h3)⟩)
    (bigDecimal := fun {u sc} h1 h2 h3 => by
      have hm : (toSignedBE u).length < 2^63 := by
        rw [List.length_append, encBytes, List.length_append] at h3; omega
      have e : Spec.long (toSignedBE u).length ++ toSignedBE u ++ Spec.long sc = encBytes (toSignedBE u) ++ encLong sc := by
        rw [Spec.long_eq_encLong_nat _ hm, Spec.long_eq_encLong h2]; rfl
      rw [← e] at h3
      refine ⟨_, .leaf (fun _ => ?_) (.bigDecimal h1 h2 h3) (dc_bigDecimal hl h1 h2 h3)⟩
      rw [Spec.long_eq_encLong_nat _ (Nat.lt_of_le_of_lt h3 hl), e]; rfl)
    (uuidString := fun {b} h1 h2 h3 => by
      have h16 : b.length = 16 := hP.uuidParse_len _ _ h2
      have t3 := (hP.uuid_text b h16).2.2
      refine ⟨_, .leaf ?_ (.uuidString h16 (by omega)) (dc_uuidString hP hl h16 (by omega))⟩
      intro f
      rw [Spec.long_eq_encLong (n := 36) ⟨by decide, by decide⟩]
      simp [encode, deref, encBytes, t3])
    (uuidBytes := fun {b} h1 h2 => by
      refine ⟨_, .leaf ?_ (.uuidBytes h1 h2) (dc_uuidBytes hl h1 h2)⟩
      intro f
      rw [Spec.long_eq_encLong (n := 16) ⟨by decide, by decide⟩]
      simp [encode, deref, encBytes, h1])
    (uuidFixed := fun h1 h2 => ⟨_, .leaf (fun _ => rfl) (.uuidFixed h1 h2) (dc_uuidFixed h1 h2)⟩)
    (duration := fun h1 h2 h3 =>
      ⟨_, .leaf (fun _ => rfl) (.duration h1 h2 h3) (dc_duration h1 h2 h3)⟩)
    (ref := fun h hs _ ih => Full.ref h hs ih)
    FullItems.nil (fun _ _ ih it => FullItems.cons ih it)
    FullEntries.nil (fun hk hu _ _ ih it => FullEntries.cons hl hk hu ih it)
    FullFields.nil (fun _ _ ih it => FullFields.cons ih it)

/-! ### the round trip and the soundness of the encoder, read off -/

theorem conforms_rt (hl : cfg.lim < 2^63) {s : Schema} {v : Value} (hc : Conforms cfg env s v) :
    ∃ bs, Ev fun fuel => encode env fuel s v = .ok bs ∧ ∀ rest, decode cfg env fuel s (bs ++ rest) = .ok (v, rest) :=
  let ⟨bs, he, _, hd⟩ := conforms_full hl primFacts hc
  ⟨bs, he.and hd⟩

theorem conforms_es (hl : cfg.lim < 2^63) (hP : PrimFacts) :
    ∀ {s : Schema} {v : Value}, Conforms cfg env s v →
      ∃ enc n, (∀ fuel, n ≤ fuel → encode env fuel s v = .ok enc) ∧ SpecEnc cfg env s v enc :=
  fun hc => let ⟨bs, ⟨n, he⟩, hs, _⟩ := conforms_full hl hP hc; ⟨bs, n, he, hs⟩

/-! The same two projections for the companions of `Conforms` (item lists, map entries, record fields) and the shapes
they take there: `RT…` written and read back, `ES…` written and accepted by the specification relation.  Nothing else in
the development uses them. -/

def RTAll (cfg : Cfg) (env : Names) (s : Schema) (vs : List Value) : Prop :=
  ∃ bs n, ∀ fuel, n ≤ fuel →
    concatMapE (encode env fuel s) vs = .ok bs ∧
    ∀ acc rest, decodeN (decode cfg env fuel s) vs.length acc (bs ++ rest) = .ok (acc.reverse ++ vs, rest)

abbrev encEntry (env : Names) (fuel : Nat) (s : Schema) : Bytes × Value → Except Err Bytes :=
  encEntryWith (encode env fuel s)

abbrev decEntry (cfg : Cfg) (env : Names) (fuel : Nat) (s : Schema) : Reader (Bytes × Value) :=
  decEntryWith cfg.lim (decode cfg env fuel s)

def RTEntries (cfg : Cfg) (env : Names) (s : Schema) (es : List (Bytes × Value)) : Prop :=
  ∃ bs n, ∀ fuel, n ≤ fuel →
    concatMapE (encEntry env fuel s) es = .ok bs ∧
    ∀ acc rest, decodeN (decEntry cfg env fuel s) es.length acc (bs ++ rest) = .ok (acc.reverse ++ es, rest)

def RTFields (cfg : Cfg) (env : Names) (fields : List (FieldMeta × Schema)) (vfs : List (Bytes × Value)) : Prop :=
  ∃ bs n, ∀ fuel, n ≤ fuel →
    (∀ all : List (Bytes × Value), (∀ kv ∈ vfs, lookupLast all kv.1 = some kv.2) →
      encodeFieldsWith (encode env fuel) fields all = .ok bs) ∧
    ∀ rest, decodeFieldsWith (decode cfg env fuel) fields (bs ++ rest) = .ok (vfs, rest)

def ESItems (cfg : Cfg) (env : Names) (s : Schema) (vs : List Value) : Prop :=
  ∃ enc n, (∀ fuel, n ≤ fuel → concatMapE (encode env fuel s) vs = .ok enc) ∧ SpecItems cfg env s vs enc

def ESEntries (cfg : Cfg) (env : Names) (s : Schema) (es : List (Bytes × Value)) : Prop :=
  ∃ enc n, (∀ fuel, n ≤ fuel → concatMapE (encEntryWith (encode env fuel s)) es = .ok enc) ∧ SpecEntries cfg env s es enc

def ESFields (cfg : Cfg) (env : Names) (fs : List (FieldMeta × Schema)) (vs : List (Bytes × Value)) : Prop :=
  ∃ enc n, (∀ fuel, n ≤ fuel → ∀ all : List (Bytes × Value), (∀ kv ∈ vs, lookupLast all kv.1 = some kv.2) →
      encodeFieldsWith (encode env fuel) fs all = .ok enc) ∧ SpecFields cfg env fs vs enc

theorem all_full (hl : cfg.lim < 2^63) (hP : PrimFacts) {s : Schema} {vs : List Value} (hc : ConformsAll cfg env s vs) :
    ∃ enc, FullItems cfg env s vs enc := by
  induction vs with
  | nil => exact FullItems.nil
  | cons _ _ ih => cases hc with | cons h t => exact FullItems.cons (conforms_full hl hP h) (ih t)

theorem entries_full (hl : cfg.lim < 2^63) (hP : PrimFacts) {s : Schema} {es : List (Bytes × Value)}
    (hc : ConformsEntries cfg env s es) : ∃ enc, FullEntries cfg env s es enc := by
  induction es with
  | nil => exact FullEntries.nil
  | cons _ _ ih => cases hc with | cons hk hu h t => exact FullEntries.cons hl hk hu (conforms_full hl hP h) (ih t)

theorem fields_full (hl : cfg.lim < 2^63) (hP : PrimFacts) {fs : List (FieldMeta × Schema)} {vs : List (Bytes × Value)}
    (hc : ConformsFields cfg env fs vs) : ∃ enc, FullFields cfg env fs vs enc := by
  induction fs generalizing vs with
  | nil => cases hc; exact FullFields.nil
  | cons _ _ ih => cases hc with | cons h t => exact FullFields.cons (conforms_full hl hP h) (ih t)

theorem all_rt (hl : cfg.lim < 2^63) : ∀ {s : Schema} {vs : List Value}, ConformsAll cfg env s vs → RTAll cfg env s vs :=
  fun hc => let ⟨bs, he, _, hd⟩ := all_full hl primFacts hc; ⟨bs, he.and hd⟩

theorem entries_rt (hl : cfg.lim < 2^63) : ∀ {s : Schema} {es : List (Bytes × Value)},
    ConformsEntries cfg env s es → RTEntries cfg env s es :=
  fun hc => let ⟨bs, he, _, hd⟩ := entries_full hl primFacts hc; ⟨bs, he.and hd⟩

theorem fields_rt (hl : cfg.lim < 2^63) : ∀ {fs : List (FieldMeta × Schema)} {vs : List (Bytes × Value)},
    ConformsFields cfg env fs vs → RTFields cfg env fs vs :=
  fun hc => let ⟨bs, he, _, hd⟩ := fields_full hl primFacts hc; ⟨bs, he.and hd⟩

theorem all_es (hl : cfg.lim < 2^63) (hP : PrimFacts) :
    ∀ {s : Schema} {vs : List Value}, ConformsAll cfg env s vs → ESItems cfg env s vs :=
  fun hc => let ⟨bs, ⟨n, he⟩, hs, _⟩ := all_full hl hP hc; ⟨bs, n, he, hs⟩

theorem entries_es (hl : cfg.lim < 2^63) (hP : PrimFacts) :
    ∀ {s : Schema} {es : List (Bytes × Value)}, ConformsEntries cfg env s es → ESEntries cfg env s es :=
  fun hc => let ⟨bs, ⟨n, he⟩, hs, _⟩ := entries_full hl hP hc; ⟨bs, n, he, hs⟩

theorem fields_es (hl : cfg.lim < 2^63) (hP : PrimFacts) :
    ∀ {fs : List (FieldMeta × Schema)} {vs : List (Bytes × Value)}, ConformsFields cfg env fs vs → ESFields cfg env fs vs :=
  fun hc => let ⟨bs, ⟨n, he⟩, hs, _⟩ := fields_full hl hP hc; ⟨bs, n, he, hs⟩

end
end Avro
