import AvroModel.Resolve
/-! helper lemmas about union branch selection (`findBranchWith`) -/
namespace Avro

theorem anyFind_sound (p : Schema → Bool) (bs : List Schema) (start i : Nat) (s : Schema)
    (h : anyFind p bs start = some (i, s)) : start ≤ i ∧ bs[i - start]? = some s := by
  fun_induction anyFind p bs start
  · cases h
  · cases h; simp
  next b rest start _ ih =>
    obtain ⟨h1, h2⟩ := ih h
    exact ⟨by omega, by rw [show i - start = (i - (start + 1)) + 1 by omega]; exact h2⟩

/-! the two searches by kind are the slow-path search `anyFind` with another test -/

theorem unnamedIndex_eq (k : Kind) (bs : List Schema) (start : Nat) :
    unnamedIndex k bs start = anyFind (fun s => !s.isNamed && s.baseKind == k) bs start := by
  fun_induction unnamedIndex k bs start <;> simp [anyFind, *]

theorem namedFind_eq (k : Kind) (ok : Schema → Bool) (bs : List Schema) (start : Nat) :
    namedFind k ok bs start =
      anyFind (fun s => s.isNamed && (s.baseKind == k || s.baseKind == .ref) && ok s) bs start := by
  fun_induction namedFind k ok bs start <;> simp [anyFind, *]

theorem unnamedCand_sound (ok : Schema → Bool) (bs : List Schema) (uk : Option Kind) (i : Nat) (s : Schema)
    (e : unnamedCand ok bs uk = some (i, s)) : bs[i]? = some s := by
  have hx : ∀ k, unnamedIndex k bs 0 = some (i, s) → bs[i]? = some s := fun k h =>
    (anyFind_sound _ bs 0 i s (unnamedIndex_eq k bs 0 ▸ h)).2
  revert e
  -- whichever way the check of a map or array goes, what is returned is the indexed branch
  fun_cases unnamedCand ok bs uk <;> intro e <;> cases e <;> exact hx _ ‹_›

theorem namedCand_sound (ok : Schema → Bool) (bs : List Schema) (nk : Option Kind) (i : Nat) (s : Schema)
    (e : namedCand ok bs nk = some (i, s)) : bs[i]? = some s := by
  cases nk with
  | none => cases e
  | some k => exact (anyFind_sound _ bs 0 i s ((namedFind_eq k ok bs 0).symm.trans e)).2

theorem pickBranch_sound (ok : Schema → Bool) (bs : List Schema) (u n : Option (Nat × Schema)) (i : Nat) (s : Schema)
    (hu : u = some (i, s) → bs[i]? = some s) (hn : n = some (i, s) → bs[i]? = some s)
    (h : pickBranch ok bs u n = some (i, s)) : bs[i]? = some s := by
  revert h
  fun_cases pickBranch ok bs u n <;> intro h
  · exact hu h
  · exact hn h
  · exact hu h
  · exact hn h
  · exact (anyFind_sound ok bs 0 i s h).2

/-- whatever branch selection returns is a branch of the union, at the index it reports -/
theorem findBranchWith_sound (ok : Schema → Bool) (bs : List Schema) (v : Value) (i : Nat) (s : Schema)
    (h : findBranchWith ok bs v = some (i, s)) : bs[i]? = some s :=
  pickBranch_sound ok bs _ _ i s (unnamedCand_sound ok bs _ i s) (namedCand_sound ok bs _ i s) h

end Avro
