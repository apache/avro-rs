import AvroModel.SerdeSer
/-!
The record serializer's out-of-order cache (`serde/ser_schema/record/mod.rs`): whatever order a `Serialize`
impl hands the fields over in, and whichever fields it skips or never mentions, the bytes written are the
fields' bytes in schema order, each field's bytes being those of the value given for it or of its default.

`specField … i` is that specification for schema position `i`; `RInv` is the invariant of the serializer's
state.  Each function of the record serializer gets one lemma saying how it succeeds
(`nextField_ok`, `recordFields_cons_ok`, `recordEnd_succ_ok`); everything else is read off those.
-/
namespace Avro

/-- the bytes the record serializer produces for one field: the value given, or (skipped / never given) its default.  The
model writes this `match` out twice, in `recordFields` and in `recordEnd`; 50 is the budget it gives `defaultToSerde` -/
def fieldBytes (env : Names) (ser : Schema → SerdeVal → SerOut) (ms : FieldMeta × Schema) (val : Option SerdeVal) : SerOut :=
  match val with
  | some v => ser ms.2 v
  | none => match ms.1.default with
    | none => .error .mismatch
    | some d => match defaultToSerde env 50 d ms.2 with
      | some dv => ser ms.2 dv
      | none => .error .other

variable {env : Names} {ser : Schema → SerdeVal → SerOut} {fields : List (FieldMeta × Schema)}
  {given : List (Bytes × Option SerdeVal)}

theorem fieldBytes_ok {ms : FieldMeta × Schema} {val : Option SerdeVal} {r : Bytes × Nat}
    (h : fieldBytes env ser ms val = .ok r) :
    ∃ v, ser ms.2 v = .ok r ∧
      (val = some v ∨ val = none ∧ ∃ d, ms.1.default = some d ∧ defaultToSerde env 50 d ms.2 = some v) := by
  revert h
  fun_cases fieldBytes env ser ms val <;> intro h
  next v => exact ⟨v, h, .inl rfl⟩
  next => cases h
  next d hd dv hdv => exact ⟨dv, h, .inr ⟨rfl, d, hd, hdv⟩⟩
  next => cases h

/-- how `serialize_next_field` succeeds: the field is next and is written, then the cache flushed; or it is further on,
not cached yet, and goes into the cache -/
theorem nextField_ok {n : Nat} {st st' : RecSt} {p : Nat} {bo : SerOut} (h : nextField n st p bo = .ok st') :
    ∃ b k, bo = .ok (b, k) ∧
      (st.pos = p ∧ st' = flushCache (n + 1) { st with pos := st.pos + 1, out := st.out ++ b, cnt := st.cnt + k } ∨
       st.pos < p ∧ (∀ e ∈ st.cache, e.1 ≠ p) ∧ st' = { st with cache := st.cache ++ [(p, b)] }) := by
  revert h
  fun_cases nextField n st p bo <;> intro h <;> cases h
  next hp b k => exact ⟨b, k, rfl, .inl ⟨eq_of_beq hp, rfl⟩⟩
  next _ hlt b k hany =>
    exact ⟨b, k, rfl, .inr ⟨hlt, fun e he hp => hany (List.any_eq_true.mpr ⟨e, he, by simp [hp]⟩), rfl⟩⟩

theorem recordFields_cons_ok {key : Bytes} {val : Option SerdeVal} {rest : List (Bytes × Option SerdeVal)} {st st' : RecSt}
    (h : recordFields env ser fields ((key, val) :: rest) st = .ok st') :
    ∃ p ms st1, lookupPos fields key = some p ∧ fields[p]? = some ms ∧
      nextField fields.length st p (fieldBytes env ser ms val) = .ok st1 ∧
      recordFields env ser fields rest st1 = .ok st' := by
  -- `fun_cases` wants variables for all arguments: name the list, and put it back in every leaf
  generalize hg : (key, val) :: rest = given at h
  revert h
  fun_cases recordFields env ser fields given st <;> intro h <;> cases hg <;> try cases h
  next p m s hf st1 hp _ hn => exact ⟨p, (m, s), st1, hp, hf, by cases val <;> exact hn, h⟩

theorem recordEnd_succ_ok {fuel : Nat} {st st' : RecSt} (h : recordEnd env ser fields (fuel + 1) st = .ok st') :
    st.pos = fields.length ∧ st' = st ∨
    ∃ ms st1, fields[st.pos]? = some ms ∧ nextField fields.length st st.pos (fieldBytes env ser ms none) = .ok st1 ∧
      recordEnd env ser fields fuel st1 = .ok st' := by
  generalize hn : fuel + 1 = n at h
  revert h
  fun_cases recordEnd env ser fields n st <;> intro h <;> cases hn <;> try cases h
  next hp => exact .inl ⟨eq_of_beq hp, rfl⟩
  next m s d hd _ st1 _ hf hnf => exact .inr ⟨(m, s), st1, hf, by simp only [fieldBytes, hd]; exact hnf, h⟩

/-- what belongs at schema position `i`: the bytes of the first field handed over whose key
resolves to `i` - skipped means its default -, or of the default when the type never mentions the field -/
def specField (env : Names) (ser : Schema → SerdeVal → SerOut) (fields : List (FieldMeta × Schema))
    (given : List (Bytes × Option SerdeVal)) (i : Nat) : SerOut :=
  match fields[i]? with
  | none => .error .mismatch
  | some ms =>
    match given.find? (fun kv => lookupPos fields kv.1 == some i) with
    | some kv => fieldBytes env ser ms kv.2
    | none => fieldBytes env ser ms none

theorem specField_ok {i : Nat} {r : Bytes × Nat} (h : specField env ser fields given i = .ok r) :
    ∃ ms v, fields[i]? = some ms ∧ ser ms.2 v = .ok r ∧
      ((∃ kv ∈ given, lookupPos fields kv.1 = some i ∧ kv.2 = some v) ∨
       ∃ d, ms.1.default = some d ∧ defaultToSerde env 50 d ms.2 = some v) := by
  revert h
  fun_cases specField env ser fields given i <;> intro h
  next => cases h
  next ms hf kv hfind =>
    obtain ⟨v, hv, hk | ⟨-, hdef⟩⟩ := fieldBytes_ok h
    · exact ⟨ms, v, hf, hv, .inl ⟨kv, List.mem_of_find?_eq_some hfind, by simpa using List.find?_some hfind, hk⟩⟩
    · exact ⟨ms, v, hf, hv, .inr hdef⟩
  next ms hf _ =>
    obtain ⟨v, hv, hk | ⟨-, hdef⟩⟩ := fieldBytes_ok h
    · cases hk
    · exact ⟨ms, v, hf, hv, .inr hdef⟩

/-- position `p` has been dealt with: written, or waiting in the cache -/
def Handled (st : RecSt) (p : Nat) : Prop := p < st.pos ∨ ∃ e ∈ st.cache, e.1 = p

theorem not_handled {st : RecSt} {p : Nat} (hp : st.pos ≤ p) (hc : ∀ e ∈ st.cache, e.1 ≠ p) : ¬ Handled st p := by
  rintro (hlt | ⟨e, he, hep⟩)
  · omega
  · exact hc e he hep

/-- `out` is the bytes `spec` asks for at positions `0 .. pos-1`, in order -/
def OutSpec (spec : Nat → SerOut) (pos : Nat) (out : Bytes) : Prop :=
  ∃ bs : List Bytes, bs.length = pos ∧ (∀ i b, bs[i]? = some b → ∃ k, spec i = .ok (b, k)) ∧ out = bs.flatten

theorem OutSpec.snoc {spec : Nat → SerOut} {pos : Nat} {out b : Bytes} {k : Nat}
    (h : OutSpec spec pos out) (hb : spec pos = .ok (b, k)) : OutSpec spec (pos + 1) (out ++ b) := by
  obtain ⟨bs, hl, hs, ho⟩ := h
  refine ⟨bs ++ [b], by simp [hl], ?_, by simp [ho]⟩
  intro i x hx
  rcases Nat.lt_or_ge i bs.length with hi | hi
  · rw [List.getElem?_append_left hi] at hx; exact hs i x hx
  · rw [List.getElem?_append_right hi, List.getElem?_singleton] at hx
    split at hx
    · cases hx; exact ⟨k, by rwa [show i = pos by omega]⟩
    · cases hx

/-- the state of the serializer: what is cached lies `gap` or more ahead of `pos`.  Between two calls `gap = 1`
(nothing in the cache is next); inside the flush loop `gap = 0` -/
structure RInv (spec : Nat → SerOut) (n gap : Nat) (st : RecSt) : Prop where
  cacheRange : ∀ e ∈ st.cache, st.pos + gap ≤ e.1 ∧ e.1 < n
  cacheSpec : ∀ e ∈ st.cache, ∃ k, spec e.1 = .ok (e.2, k)
  outSpec : OutSpec spec st.pos st.out

theorem RInv.close {spec : Nat → SerOut} {n : Nat} {st : RecSt} (h : RInv spec n 0 st)
    (hne : ∀ e ∈ st.cache, e.1 ≠ st.pos) : RInv spec n 1 st :=
  ⟨fun e he => by have := h.cacheRange e he; have := hne e he; omega, h.cacheSpec, h.outSpec⟩

theorem RInv.init {spec : Nat → SerOut} {n : Nat} : RInv spec n 1 {} := ⟨nofun, nofun, [], rfl, nofun, rfl⟩

theorem flushCache_handled (fuel : Nat) (st : RecSt) {p : Nat} (h : Handled st p) : Handled (flushCache fuel st) p := by
  fun_induction flushCache fuel st with
  | case1 | case3 => exact h
  | case2 fuel st q b hfind ih =>
    refine ih ?_
    rcases h with h | ⟨e, he, rfl⟩
    · exact .inl (Nat.lt_succ_of_lt h)
    · by_cases hq : e.1 = st.pos
      · exact .inl (by simp only; omega)
      · exact .inr ⟨e, List.mem_filter.mpr ⟨he, by simpa using hq⟩, rfl⟩

/-- the `while let Some(bytes) = cache.remove(&pos)` loop: with enough fuel nothing in the cache is next afterwards -/
theorem flushCache_inv {spec : Nat → SerOut} {n : Nat} (fuel : Nat) (st : RecSt)
    (h : RInv spec n 0 st) (hf : n < st.pos + fuel) : RInv spec n 1 (flushCache fuel st) := by
  fun_induction flushCache fuel st with
  | case1 st => exact h.close fun e he => by have := h.cacheRange e he; omega
  | case2 fuel st p b hfind ih =>
    have hp : p = st.pos := by simpa using List.find?_some hfind
    obtain ⟨k, hk⟩ := h.cacheSpec _ (List.mem_of_find?_eq_some hfind)
    refine ih ⟨fun e he => ?_, fun e he => h.cacheSpec e (List.mem_filter.mp he).1, h.outSpec.snoc (hp ▸ hk)⟩
      (by simp only; omega)
    obtain ⟨he1, he2⟩ := List.mem_filter.mp he
    have := h.cacheRange e he1
    simp only [bne_iff_ne, ne_eq] at he2
    simp only; omega
  | case3 fuel st hfind => exact h.close fun e he => by simpa using List.find?_eq_none.mp hfind e he

/-- a successful `serialize_next_field` deals with its position, and what was dealt with stays so -/
theorem nextField_handled {n : Nat} {st st' : RecSt} {p : Nat} {bo : SerOut} (hok : nextField n st p bo = .ok st') :
    Handled st' p ∧ ∀ q, Handled st q → Handled st' q := by
  obtain ⟨b, k, rfl, ⟨rfl, rfl⟩ | ⟨-, -, rfl⟩⟩ := nextField_ok hok
  · exact ⟨flushCache_handled _ _ (.inl (Nat.lt_succ_self _)),
      fun q hq => flushCache_handled _ _ (hq.imp_left Nat.lt_succ_of_lt)⟩
  · exact ⟨.inr ⟨(p, b), by simp, rfl⟩, fun q hq => hq.imp_right fun ⟨e, he, h⟩ => ⟨e, List.mem_append_left _ he, h⟩⟩

/-- a successful `serialize_next_field` was for a position not yet dealt with (a duplicate is refused), so the bytes it
was handed are the ones `spec` asks for there -/
theorem nextField_inv {spec : Nat → SerOut} {n : Nat} {st st' : RecSt} {p : Nat} {bo : SerOut}
    (h : RInv spec n 1 st) (hpos : p < n) (hspec : ¬ Handled st p → spec p = bo)
    (hok : nextField n st p bo = .ok st') : RInv spec n 1 st' := by
  obtain ⟨b, k, rfl, ⟨heq, rfl⟩ | ⟨hlt, hfresh, rfl⟩⟩ := nextField_ok hok
  · have hsp := hspec (not_handled (Nat.le_of_eq heq) fun e he => by have := h.cacheRange e he; omega)
    exact flushCache_inv _ _ ⟨h.cacheRange, h.cacheSpec, h.outSpec.snoc (heq ▸ hsp)⟩ (by simp only; omega)
  · have hsp := hspec (not_handled (Nat.le_of_lt hlt) hfresh)
    exact ⟨List.forall_mem_append.mpr ⟨h.cacheRange, List.forall_mem_singleton.mpr ⟨hlt, hpos⟩⟩,
      List.forall_mem_append.mpr ⟨h.cacheSpec, List.forall_mem_singleton.mpr ⟨k, hsp⟩⟩, h.outSpec⟩

/-- the loop of `lookupPos` returns a position below the number of fields (not needed below: `recordFields_cons_ok` has
`fields[p]? = some ms` from the model's own check) -/
theorem lookupPos_go_lt (key : Bytes) : ∀ (fs : List (FieldMeta × Schema)) (i : Nat) (acc : Option Nat) (p : Nat),
    (∀ q, acc = some q → q < i) → lookupPos.go key fs i acc = some p → p < i + fs.length := by
  intro fs i acc p hacc h
  fun_induction lookupPos.go key fs i acc with
  | case1 acc => have := hacc p h; simp; omega
  | case2 i acc m _ rest ih =>
    have := ih (fun q hq => by
      split at hq
      · cases hq; omega
      · have := hacc q hq; omega) h
    simp only [List.length_cons]; omega

theorem specField_nil {i : Nat} {ms : FieldMeta × Schema} (hf : fields[i]? = some ms) :
    specField env ser fields [] i = fieldBytes env ser ms none := by
  simp only [specField, hf, List.find?_nil]

theorem specField_cons_self {key : Bytes} {val : Option SerdeVal} {rest : List (Bytes × Option SerdeVal)} {p : Nat}
    {ms : FieldMeta × Schema} (hf : fields[p]? = some ms) (hl : lookupPos fields key = some p) :
    specField env ser fields ((key, val) :: rest) p = fieldBytes env ser ms val := by
  simp only [specField, hf, hl, List.find?_cons_of_pos, beq_self_eq_true]

theorem specField_cons_ne {key : Bytes} {val : Option SerdeVal} {rest : List (Bytes × Option SerdeVal)} {i : Nat}
    (hl : lookupPos fields key ≠ some i) :
    specField env ser fields ((key, val) :: rest) i = specField env ser fields rest i := by
  unfold specField
  rw [List.find?_cons_of_neg (by simpa using hl)]

/-- the fields handed over, one after the other.  No entry handed over so far resolved to a position that is still not
dealt with, so what belongs there is decided by the entries still to come -/
theorem recordFields_inv (todo : List (Bytes × Option SerdeVal)) : ∀ (st st' : RecSt),
    RInv (specField env ser fields given) fields.length 1 st →
    (∀ i, ¬ Handled st i → specField env ser fields given i = specField env ser fields todo i) →
    recordFields env ser fields todo st = .ok st' →
    RInv (specField env ser fields given) fields.length 1 st' ∧
      ∀ i, ¬ Handled st' i → specField env ser fields given i = specField env ser fields [] i := by
  induction todo with
  | nil =>
    intro st st' hinv hsp hok
    cases hok
    exact ⟨hinv, hsp⟩
  | cons kv rest ih =>
    intro st st' hinv hsp hok
    obtain ⟨p, ms, st1, hl, hf, hn, hok⟩ := recordFields_cons_ok hok
    have i1 := nextField_inv hinv (List.getElem?_eq_some_iff.mp hf).1
      (fun hun => (hsp p hun).trans (specField_cons_self hf hl)) hn
    obtain ⟨i2, i3⟩ := nextField_handled hn
    refine ih st1 st' i1 (fun i hi => ?_) hok
    rw [hsp i fun h => hi (i3 i h), specField_cons_ne]
    rintro hli
    exact hi (Option.some.inj (hl.symm.trans hli) ▸ i2)

/-- `end()`: the fields never handed over, from their defaults -/
theorem recordEnd_inv (fuel : Nat) : ∀ (st st' : RecSt),
    RInv (specField env ser fields given) fields.length 1 st →
    (∀ i, ¬ Handled st i → specField env ser fields given i = specField env ser fields [] i) →
    recordEnd env ser fields fuel st = .ok st' →
    RInv (specField env ser fields given) fields.length 1 st' ∧ st'.pos = fields.length := by
  induction fuel with
  | zero =>
    intro st st' hinv _ hok
    simp only [recordEnd] at hok
    split at hok <;> cases hok
    exact ⟨hinv, eq_of_beq ‹_›⟩
  | succ fuel ih =>
    intro st st' hinv hsp hok
    obtain ⟨hp, rfl⟩ | ⟨ms, st1, hf, hn, hok⟩ := recordEnd_succ_ok hok
    · exact ⟨hinv, hp⟩
    · exact ih st1 st'
        (nextField_inv hinv (List.getElem?_eq_some_iff.mp hf).1 (fun hun => (hsp _ hun).trans (specField_nil hf)) hn)
        (fun i hi => hsp i fun h => hi ((nextField_handled hn).2 i h)) hok

/-- a whole struct: the fields handed over, then `end()` -/
theorem record_inv {st st' : RecSt} (h1 : recordFields env ser fields given {} = .ok st)
    (h2 : recordEnd env ser fields (fields.length + 1) st = .ok st') :
    OutSpec (specField env ser fields given) fields.length st'.out := by
  obtain ⟨i1, i2⟩ := recordFields_inv (given := given) given {} st .init (fun _ _ => rfl) h1
  obtain ⟨j1, j2⟩ := recordEnd_inv _ st st' i1 i2 h2
  exact j2 ▸ j1.outSpec
end Avro
