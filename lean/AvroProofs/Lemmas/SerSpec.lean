import AvroProofs.C16
import AvroProofs.Lemmas.SpecVarint
import AvroProofs.Lemmas.RecordOrder
import AvroProofs.Lemmas.Prim
/-!
What the schema-aware serializer writes is a specification-legal datum (`Spec.SpecEnc`), for every target block
size: helper definitions and lemmas for `Avro.C16.ser_is_spec_datum`.

`SerOk cfg env s x` collects what the Rust side guarantees about a serde value `x` serialized against `s`
(integers within the range of the Avro type they are written to, `str`/`char` valid UTF-8, declared lengths equal to the number of
items, distinct map keys) together with the size side conditions under which a reader with allocation limit
`cfg.lim` must accept the datum.
-/
namespace Avro
open Spec
open Avro.C16

/-- the text of a map key -/
def keyOf : SerdeVal → Bytes
  | .str u => u
  | .char u => u
  | _ => []

/-- the schemas an arbitrary byte string is written to as itself (`uuid` and `duration` targets have their own rules
with the length the logical type requires; big-decimal is left out) -/
def bytesTarget : Schema → Bool
  | .bytes | .fixed _ _ | .decimal _ _ _ => true
  | _ => false

/-- every premise about a part is asked only under the shape of schema that `serS` serializes that part against
(`derefS env s0 = some …`): against another shape `serS` fails, and the premise is not needed -/
inductive SerOk (cfg : Cfg) (env : Names) : Schema → SerdeVal → Prop
  | bool {s0 : Schema} {b : Bool} : SerOk cfg env s0 (.bool b)
  | i8 {s0 : Schema} {n : Int} : i32ok n → SerOk cfg env s0 (.i8 n)
  | i16 {s0 : Schema} {n : Int} : i32ok n → SerOk cfg env s0 (.i16 n)
  | i32 {s0 : Schema} {n : Int} : i32ok n → SerOk cfg env s0 (.i32 n)
  | u8 {s0 : Schema} {n : Int} : i32ok n → SerOk cfg env s0 (.u8 n)
  | u16 {s0 : Schema} {n : Int} : i32ok n → SerOk cfg env s0 (.u16 n)
  | i64 {s0 : Schema} {n : Int} : i64ok n → SerOk cfg env s0 (.i64 n)
  | u32 {s0 : Schema} {n : Int} : i64ok n → SerOk cfg env s0 (.u32 n)
  | f32 {s0 : Schema} {b : UInt32} : SerOk cfg env s0 (.f32 b)
  | f64 {s0 : Schema} {b : UInt64} : SerOk cfg env s0 (.f64 b)
  | char {s0 : Schema} {u : Bytes} : validUtf8 u = true → u.length ≤ cfg.lim → SerOk cfg env s0 (.char u)
  | str {s0 : Schema} {u : Bytes} : derefS env s0 = some .string → validUtf8 u = true → u.length ≤ cfg.lim →
      SerOk cfg env s0 (.str u)
  | bytes {s0 s : Schema} {b : Bytes} : derefS env s0 = some s → bytesTarget s = true → b.length ≤ cfg.lim →
      SerOk cfg env s0 (.bytes b)
  /-- a uuid handed over as its 16 raw bytes, to `uuid` on `bytes` or on `fixed(16)` -/
  | bytesUuid {s0 s : Schema} {b : Bytes} : derefS env s0 = some s → (s = .uuidBytes ∨ ∃ nm, s = .uuidFixed nm 16) →
      b.length = 16 → 16 ≤ cfg.lim → SerOk cfg env s0 (.bytes b)
  /-- a duration handed over as its 12 bytes -/
  | bytesDuration {s0 : Schema} {nm b : Bytes} : derefS env s0 = some (.duration nm 12) → b.length = 12 →
      SerOk cfg env s0 (.bytes b)
  /-- a big-decimal handed over in its serialized form: length-prefixed two's-complement unscaled value, then the scale -/
  | bytesBigDecimal {s0 : Schema} {u sc : Int} : derefS env s0 = some .bigDecimal → i64ok sc →
      (Spec.long (toSignedBE u).length ++ toSignedBE u ++ Spec.long sc).length ≤ cfg.lim →
      SerOk cfg env s0 (.bytes (Spec.long (toSignedBE u).length ++ toSignedBE u ++ Spec.long sc))
  /-- a uuid handed over in its canonical text form, to `uuid` on `string` -/
  | strUuid {s0 : Schema} {u b : Bytes} : derefS env s0 = some .uuidString → b.length = 16 → u = uuidToText b →
      36 ≤ cfg.lim → SerOk cfg env s0 (.str u)
  | none {s0 : Schema} : SerOk cfg env s0 .none
  | unit {s0 : Schema} : SerOk cfg env s0 .unit
  | unitStruct {s0 : Schema} {name : Bytes} : SerOk cfg env s0 (.unitStruct name)
  | unitVariant {s0 : Schema} {name variant : Bytes} {idx : Nat} :
      (∀ en syms d, derefS env s0 = some (.enum en syms d) → syms.length ≤ 2^31) →
      SerOk cfg env s0 (.unitVariant name idx variant)
  | some {s0 : Schema} {v : SerdeVal} :
      (∀ branches ni b, derefS env s0 = some (.union branches) → optionNullIndex branches = some ni →
        branches[(ni + 1) % 2]? = some b → SerOk cfg env b v) →
      SerOk cfg env s0 (.some v)
  | newtypeStruct {s0 : Schema} {name : Bytes} {v : SerdeVal} :
      (∀ rn m fs, derefS env s0 = some (.record rn [(m, fs)]) → SerOk cfg env fs v) →
      SerOk cfg env s0 (.newtypeStruct name v)
  | seq {s0 : Schema} {len : Option Nat} {items : List SerdeVal} :
      (len = none ∨ len = some items.length) → items.length ≤ cfg.lim → items.length * cfg.szValue ≤ cfg.lim →
      (∀ inner, derefS env s0 = some (.array inner) → ∀ i ∈ items, SerOk cfg env inner i) →
      SerOk cfg env s0 (.seq len items)
  | map {s0 : Schema} {len : Option Nat} {entries : List (SerdeVal × SerdeVal)} :
      (len = none ∨ len = some entries.length) → entries.length ≤ cfg.lim → entries.length * cfg.szEntry ≤ cfg.lim →
      (entries.map (fun kv => keyOf kv.1)).Nodup →
      (∀ kv ∈ entries, (kv.1 = .str (keyOf kv.1) ∨ kv.1 = .char (keyOf kv.1)) ∧ validUtf8 (keyOf kv.1) = true ∧
        (keyOf kv.1).length ≤ cfg.lim) →
      (∀ inner, derefS env s0 = some (.map inner) → ∀ kv ∈ entries, SerOk cfg env inner kv.2) →
      SerOk cfg env s0 (.map len entries)
  | tuple {s0 : Schema} {items : List SerdeVal} :
      (∀ s i, derefS env s0 = some s → items = [i] → SerOk cfg env s i) →
      (∀ rn fields, derefS env s0 = some (.record rn fields) →
        ∀ (j : Nat) i (ms : FieldMeta × Schema), items[j]? = some i → fields[j]? = some ms → SerOk cfg env ms.2 i) →
      SerOk cfg env s0 (.tuple items)
  | tupleStruct {s0 : Schema} {name : Bytes} {items : List SerdeVal} :
      (∀ rn fields, derefS env s0 = some (.record rn fields) →
        ∀ (j : Nat) i (ms : FieldMeta × Schema), items[j]? = some i → fields[j]? = some ms → SerOk cfg env ms.2 i) →
      SerOk cfg env s0 (.tupleStruct name items)
  | struct {s0 : Schema} {name : Bytes} {given : List (Bytes × Option SerdeVal)} :
      (∀ rn rfields, derefS env s0 = some (.record rn rfields) →
        ∀ kv ∈ given, ∀ v (p : Nat) (ms : FieldMeta × Schema), kv.2 = some v → lookupPos rfields kv.1 = some p →
          rfields[p]? = some ms → SerOk cfg env ms.2 v) →
      (∀ rn rfields, derefS env s0 = some (.record rn rfields) →
        ∀ ms ∈ rfields, ∀ d dv, ms.1.default = some d → defaultToSerde env 50 d ms.2 = some dv →
          SerOk cfg env ms.2 dv) →
      SerOk cfg env s0 (.struct name given)

variable {cfg : Cfg} {env : Names}

theorem derefS_self {s : Schema} (h : notRef s) : derefS env s = some s := by
  unfold derefS
  split
  · exact h.elim
  · rfl

theorem spec_of_deref (henv : EnvOk env) {s0 s : Schema} {v : Value} {enc : Bytes}
    (hd : derefS env s0 = some s) (h : SpecEnc cfg env s v enc) : SpecEnc cfg env s0 v enc := by
  unfold derefS at hd
  split at hd
  · exact .ref hd (henv _ _ hd).1 h
  · cases hd; exact h

theorem withLen_spec {b : Bytes} (h : b.length < 2^63) : (withLen b).1 = Spec.long b.length ++ b := by
  rw [Spec.long_eq_encLong_nat _ h]; rfl

theorem varint_spec {i : Nat} (h : i < 2^63) : (varint i).1 = Spec.long i := (Spec.long_eq_encLong_nat i h).symm

theorem nullIndex_some (bs : List Schema) (i ni : Nat) (h : nullIndex bs i = some ni) :
    i ≤ ni ∧ bs[ni - i]? = some .null := by
  fun_induction nullIndex bs i with
  | case1 => cases h
  | case2 => cases h; simp
  | case3 _ rest i _ ih =>
    obtain ⟨h1, h2⟩ := ih h
    exact ⟨by omega, by rwa [show ni - i = (ni - (i + 1)) + 1 by omega]⟩

theorem optionNullIndex_some {bs : List Schema} {ni : Nat} (h : optionNullIndex bs = some ni) :
    bs.length = 2 ∧ ni < 2 ∧ bs[ni]? = some .null := by
  unfold optionNullIndex at h
  split at h
  · have hl : bs.length = 2 := eq_of_beq ‹_›
    obtain ⟨-, h2⟩ := nullIndex_some bs 0 ni h
    have := (List.getElem?_eq_some_iff.mp h2).1
    exact ⟨hl, by omega, h2⟩
  · cases h

theorem intLike_spec {s : Schema} (h : s.isIntLikeS = true) {n : Int} (hn : i32ok n) :
    ∃ v, SpecEnc cfg env s v (encLong n) := by
  rw [← Spec.long_eq_encLong_i32 hn]
  unfold Schema.isIntLikeS at h
  split at h
  · exact ⟨_, .int hn⟩
  · exact ⟨_, .date hn⟩
  · exact ⟨_, .timeMillis hn⟩
  · cases h

theorem longLike_spec {s : Schema} (h : s.isLongLikeS = true) {n : Int} (hn : i64ok n) :
    ∃ v, SpecEnc cfg env s v (encLong n) := by
  rw [← Spec.long_eq_encLong hn]
  unfold Schema.isLongLikeS at h
  split at h
  · exact ⟨_, .long hn⟩
  · exact ⟨_, .longL hn⟩
  · cases h

theorem exists_leBytes_four (l : Bytes) (h : l.length = 4) : ∃ n, n < 2^32 ∧ leBytes 4 n = l :=
  ⟨ofLeBytes l, by simpa [h] using ofLeBytes_lt l, h ▸ leBytes_ofLeBytes l⟩

/-- a map key (a `str` or a `char`) is written as a string -/
theorem key_bytes (hl : cfg.lim < 2^63) {tbs : Option Nat} {fuel : Nat} {k : SerdeVal} {r : Bytes × Nat}
    (hk : k = .str (keyOf k) ∨ k = .char (keyOf k)) (hlen : (keyOf k).length ≤ cfg.lim)
    (h : serS tbs env fuel .string k = .ok r) : r.1 = Spec.long (keyOf k).length ++ keyOf k := by
  cases fuel with
  | zero => cases h
  | succ f =>
    obtain ⟨s, -, hs⟩ := serS_ok h
    rcases hk with e | e <;> (rw [e] at hs; cases hs.2; exact withLen_spec (by omega))

theorem fields_spec : ∀ (fields : List (FieldMeta × Schema)) (bs : List Bytes), bs.length = fields.length →
    (∀ (i : Nat) (ms : FieldMeta × Schema) x, fields[i]? = some ms → bs[i]? = some x → ∃ v, SpecEnc cfg env ms.2 v x) →
    ∃ vfs, SpecFields cfg env fields vfs bs.flatten
  | [], [], _, _ => ⟨[], .nil⟩
  | [], _ :: _, hl, _ | _ :: _, [], hl, _ => by cases hl
  | (m, s) :: fs, b :: bs, hl, h => by
    obtain ⟨v, hv⟩ := h 0 (m, s) b rfl rfl
    obtain ⟨vfs, hvfs⟩ := fields_spec fs bs (Nat.succ.inj hl) fun i ms x h1 h2 => h (i + 1) ms x h1 h2
    exact ⟨(m.name, v) :: vfs, .cons hv hvfs⟩

/-- `ManyTupleSerializer`: item `j` goes to field `j` -/
theorem tupleFields_spec {ser : Schema → SerdeVal → SerOut} (fields : List (FieldMeta × Schema)) (items : List SerdeVal)
    (out : Bytes) (cnt : Nat) (r : Bytes × Nat)
    (hp : ∀ (j : Nat) i (ms : FieldMeta × Schema), items[j]? = some i → fields[j]? = some ms →
      ∀ r, ser ms.2 i = .ok r → r.1.length < 2^63 → ∃ v, SpecEnc cfg env ms.2 v r.1)
    (h : tupleFields ser fields items out cnt = .ok r) (hb : r.1.length < 2^63) :
    ∃ enc vfs, r.1 = out ++ enc ∧ SpecFields cfg env fields vfs enc := by
  fun_induction tupleFields ser fields items out cnt with
  | case1 => cases h; exact ⟨[], [], by simp, .nil⟩
  | case2 | case4 => cases h
  | case3 m s fs x xs out cnt xb xn hx ih =>
    obtain ⟨enc, vfs, he, hs⟩ := ih (fun j i ms h1 h2 => hp (j + 1) i ms h1 h2) h
    obtain ⟨v, hv⟩ := hp 0 x (m, s) rfl rfl _ hx (by
      rw [he, List.length_append, List.length_append] at hb; simp only; omega)
    exact ⟨xb ++ enc, (m.name, v) :: vfs, by rw [he, List.append_assoc], .cons hv hs⟩

theorem negBlock_spec {p : List Bytes} (h1 : p.length < 2^63) (h2 : p.flatten.length < 2^63) :
    negBlock p = Spec.long (-(p.length : Int)) ++ Spec.long p.flatten.length ++ p.flatten := by
  rw [Spec.long_eq_encLong_nat _ h2, Spec.long_eq_encLong ⟨by omega, by omega⟩, negBlock, Int.zero_sub]

theorem ne_nil_of_length_eq {α β : Type} {a : List α} {b : List β} (h : a.length = b.length) (hb : b ≠ []) : a ≠ [] := by
  rintro rfl; exact hb (List.eq_nil_of_length_eq_zero h.symm)

/-- item by item: `es[j]` is an encoding of `vs[j]` -/
inductive ItemsEnc (cfg : Cfg) (env : Names) (s : Schema) : List Value → List Bytes → Prop
  | nil : ItemsEnc cfg env s [] []
  | cons {v : Value} {vs : List Value} {e : Bytes} {es : List Bytes} :
      SpecEnc cfg env s v e → ItemsEnc cfg env s vs es → ItemsEnc cfg env s (v :: vs) (e :: es)

theorem ItemsEnc.length {s : Schema} : ∀ {vs : List Value} {es : List Bytes}, ItemsEnc cfg env s vs es → vs.length = es.length := by
  intro vs es h
  induction h with
  | nil => rfl
  | cons _ _ ih => simp [ih]

theorem ItemsEnc.items {s : Schema} : ∀ {vs : List Value} {es : List Bytes}, ItemsEnc cfg env s vs es →
    SpecItems cfg env s vs es.flatten := by
  intro vs es h
  induction h with
  | nil => exact .nil
  | cons h _ ih => simpa using SpecItems.cons h ih

theorem ItemsEnc.split {s : Schema} (a : List Bytes) {b : List Bytes} : ∀ {vs : List Value},
    ItemsEnc cfg env s vs (a ++ b) →
    ∃ v1 v2, vs = v1 ++ v2 ∧ ItemsEnc cfg env s v1 a ∧ ItemsEnc cfg env s v2 b := by
  induction a with
  | nil => exact fun h => ⟨[], _, rfl, .nil, h⟩
  | cons e a ih =>
    intro vs h
    cases h with
    | cons hv ht =>
      obtain ⟨v1, v2, he, h1, h2⟩ := ih ht
      exact ⟨_ :: v1, v2, by simp [he], .cons hv h1, h2⟩

/-- the sized blocks the buffered serializer writes are legal blocks -/
theorem negBlocks_spec (hl : cfg.lim < 2^63) {s : Schema} : ∀ (parts : List (List Bytes)) (k : Nat) (vs : List Value),
    (∀ p ∈ parts, p ≠ []) → ItemsEnc cfg env s vs parts.flatten →
    vs.length ≤ cfg.lim → (k + vs.length) * cfg.szValue ≤ cfg.lim →
    (∀ p ∈ parts, p.flatten.length < 2^63) →
    SpecBlocks cfg env s k vs ((parts.map negBlock).flatten ++ [0]) := by
  intro parts
  induction parts with
  | nil => intro k vs _ h _ _ _; cases h; exact .done
  | cons p ps ih =>
    intro k vs hne h hlen hsz hby
    obtain ⟨v1, v2, rfl, h1, h2⟩ := ItemsEnc.split p h
    have hl1 := h1.length
    rw [List.length_append] at hlen hsz
    have hrest := ih (k + v1.length) v2 (fun q hq => hne q (.tail _ hq)) h2 (by omega)
      (by rw [Nat.add_assoc]; exact hsz) (fun q hq => hby q (.tail _ hq))
    have hb := SpecBlocks.neg (ne_nil_of_length_eq hl1 (hne p (.head _))) h1.items (by omega)
      (Nat.le_trans (Nat.mul_le_mul_right _ (by omega)) hsz) (hby p (.head _)) hrest
    rw [List.map_cons, List.flatten_cons, List.append_assoc, negBlock_spec (by omega) (hby p (.head _)), ← hl1]
    exact hb

theorem items_enc {ser serKey : SerdeVal → SerOut} {inner : Schema} (items : List SerdeVal) :
    ∀ (ebs : List Bytes),
      (items.map (fun i => (SerdeVal.unit, i))).mapM (entryBytes ser false serKey) = some ebs →
      (∀ i ∈ items, ∀ r, ser i = .ok r → r.1.length < 2^63 → ∃ v, SpecEnc cfg env inner v r.1) →
      ebs.flatten.length < 2^63 → ∃ vs, ItemsEnc cfg env inner vs ebs := by
  induction items with
  | nil => intro ebs h _ _; cases h; exact ⟨[], .nil⟩
  | cons i rest ih =>
    intro ebs h hp hb
    obtain ⟨_, ebs', he, hr, rfl⟩ := mapM_cons_some.mp h
    obtain ⟨kb, kn, vb, vn, hk, hv, rfl⟩ := entryBytes_some he
    cases hk
    rw [List.flatten_cons, List.length_append] at hb
    obtain ⟨v, hv⟩ := hp i (.head _) _ hv (by simp at hb ⊢; omega)
    obtain ⟨vs, hvs⟩ := ih ebs' hr (fun j hj => hp j (.tail _ hj)) (by omega)
    exact ⟨v :: vs, .cons hv hvs⟩

/-- either layout of the block serializer is a legal sequence of blocks -/
theorem array_layout_spec (hl : cfg.lim < 2^63) {inner : Schema} {vs : List Value} {ebs : List Bytes} {b : Bytes}
    (hi : ItemsEnc cfg env inner vs ebs) (hlen : vs.length ≤ cfg.lim) (hsz : vs.length * cfg.szValue ≤ cfg.lim)
    (hb : b.length < 2^63) (hlay : Laid ebs b) : SpecBlocks cfg env inner 0 vs b := by
  have hle := hi.length
  rcases hlay with rfl | ⟨parts, hne, rfl, rfl⟩
  · cases hi with
    | nil => exact .done
    | cons hv ht =>
      have := SpecBlocks.pos (k := 0) (List.cons_ne_nil _ _) (ItemsEnc.cons hv ht).items hlen (by simpa using hsz) .done
      rw [if_pos (by simp), ← hle, ← Spec.long_eq_encLong_nat _ (by omega)]
      simpa using this
  · exact negBlocks_spec hl parts 0 vs hne hi hlen (by simpa using hsz) fun p hp =>
      Nat.lt_trans (negBlocks_part_lt hp) hb

/-- entry by entry: `es[j]` is the key of `vs[j]` written as a string, then an encoding of its value -/
inductive EntriesEnc (cfg : Cfg) (env : Names) (s : Schema) : List (Bytes × Value) → List Bytes → Prop
  | nil : EntriesEnc cfg env s [] []
  | cons {k : Bytes} {v : Value} {es : List (Bytes × Value)} {e : Bytes} {rest : List Bytes} :
      k.length ≤ cfg.lim → validUtf8 k = true → SpecEnc cfg env s v e → EntriesEnc cfg env s es rest →
      EntriesEnc cfg env s ((k, v) :: es) ((Spec.long k.length ++ k ++ e) :: rest)

theorem EntriesEnc.length {s : Schema} : ∀ {vs : List (Bytes × Value)} {es : List Bytes},
    EntriesEnc cfg env s vs es → vs.length = es.length := by
  intro vs es h
  induction h with
  | nil => rfl
  | cons _ _ _ _ ih => simp [ih]

theorem EntriesEnc.entries {s : Schema} : ∀ {vs : List (Bytes × Value)} {es : List Bytes},
    EntriesEnc cfg env s vs es → SpecEntries cfg env s vs es.flatten := by
  intro vs es h
  induction h with
  | nil => exact .nil
  | cons h1 h2 h _ ih => simpa [List.append_assoc] using SpecEntries.cons h1 h2 h ih

theorem EntriesEnc.split {s : Schema} (a : List Bytes) {b : List Bytes} : ∀ {vs : List (Bytes × Value)},
    EntriesEnc cfg env s vs (a ++ b) →
    ∃ v1 v2, vs = v1 ++ v2 ∧ EntriesEnc cfg env s v1 a ∧ EntriesEnc cfg env s v2 b := by
  induction a with
  | nil => exact fun h => ⟨[], _, rfl, .nil, h⟩
  | cons e a ih =>
    intro vs h
    cases h with
    | cons h1 h2 hv ht =>
      obtain ⟨v1, v2, he, g1, g2⟩ := ih ht
      exact ⟨_ :: v1, v2, by simp [he], .cons h1 h2 hv g1, g2⟩

theorem negMapBlocks_spec (hl : cfg.lim < 2^63) {s : Schema} :
    ∀ (parts : List (List Bytes)) (k : Nat) (vs : List (Bytes × Value)),
    (∀ p ∈ parts, p ≠ []) → EntriesEnc cfg env s vs parts.flatten →
    vs.length ≤ cfg.lim → (k + vs.length) * cfg.szEntry ≤ cfg.lim →
    (∀ p ∈ parts, p.flatten.length < 2^63) →
    SpecMapBlocks cfg env s k vs ((parts.map negBlock).flatten ++ [0]) := by
  intro parts
  induction parts with
  | nil => intro k vs _ h _ _ _; cases h; exact .done
  | cons p ps ih =>
    intro k vs hne h hlen hsz hby
    obtain ⟨v1, v2, rfl, h1, h2⟩ := EntriesEnc.split p h
    have hl1 := h1.length
    rw [List.length_append] at hlen hsz
    have hrest := ih (k + v1.length) v2 (fun q hq => hne q (.tail _ hq)) h2 (by omega)
      (by rw [Nat.add_assoc]; exact hsz) (fun q hq => hby q (.tail _ hq))
    have hb := SpecMapBlocks.neg (ne_nil_of_length_eq hl1 (hne p (.head _))) h1.entries (by omega)
      (Nat.le_trans (Nat.mul_le_mul_right _ (by omega)) hsz) (hby p (.head _)) hrest
    rw [List.map_cons, List.flatten_cons, List.append_assoc, negBlock_spec (by omega) (hby p (.head _)), ← hl1]
    exact hb

theorem entries_enc {ser serKey : SerdeVal → SerOut} {inner : Schema} (entries : List (SerdeVal × SerdeVal)) :
    ∀ (ebs : List Bytes),
      entries.mapM (entryBytes ser true serKey) = some ebs →
      (∀ kv ∈ entries, (∀ r, serKey kv.1 = .ok r → r.1 = Spec.long (keyOf kv.1).length ++ keyOf kv.1) ∧
        validUtf8 (keyOf kv.1) = true ∧ (keyOf kv.1).length ≤ cfg.lim ∧
        ∀ r, ser kv.2 = .ok r → r.1.length < 2^63 → ∃ v, SpecEnc cfg env inner v r.1) →
      ebs.flatten.length < 2^63 →
      ∃ es, EntriesEnc cfg env inner es ebs ∧ es.map Prod.fst = entries.map (fun kv => keyOf kv.1) := by
  induction entries with
  | nil => intro ebs h _ _; cases h; exact ⟨[], .nil, rfl⟩
  | cons kx rest ih =>
    obtain ⟨k, x⟩ := kx
    intro ebs h hp hb
    obtain ⟨_, ebs', he, hr, rfl⟩ := mapM_cons_some.mp h
    obtain ⟨kb, kn, vb, vn, hk, hv, rfl⟩ := entryBytes_some he
    rw [List.flatten_cons, List.length_append, List.length_append] at hb
    obtain ⟨hkey, hutf, hlen, hval⟩ := hp (k, x) (.head _)
    cases hkey _ hk
    obtain ⟨v, hv⟩ := hval _ hv (by simp only; omega)
    obtain ⟨es, hes, hks⟩ := ih ebs' hr (fun j hj => hp j (.tail _ hj)) (by omega)
    exact ⟨(keyOf k, v) :: es, .cons hlen hutf hv hes, by simp [hks]⟩

theorem map_layout_spec (hl : cfg.lim < 2^63) {inner : Schema} {vs : List (Bytes × Value)} {ebs : List Bytes} {b : Bytes}
    (hi : EntriesEnc cfg env inner vs ebs) (hlen : vs.length ≤ cfg.lim) (hsz : vs.length * cfg.szEntry ≤ cfg.lim)
    (hb : b.length < 2^63) (hlay : Laid ebs b) : SpecMapBlocks cfg env inner 0 vs b := by
  have hle := hi.length
  rcases hlay with rfl | ⟨parts, hne, rfl, rfl⟩
  · cases hi with
    | nil => exact .done
    | cons h1 h2 hv ht =>
      have := SpecMapBlocks.pos (k := 0) (List.cons_ne_nil _ _) (EntriesEnc.cons h1 h2 hv ht).entries hlen
        (by simpa using hsz) .done
      rw [if_pos (by simp), ← hle, ← Spec.long_eq_encLong_nat _ (by omega)]
      simpa using this
  · exact negMapBlocks_spec hl parts 0 vs hne hi hlen (by simpa using hsz) fun p hp =>
      Nat.lt_trans (negBlocks_part_lt hp) hb

/-- **what the serializer writes is a specification-legal encoding of some value**.  `r.1.length < 2^63`: the byte size of
a sized block is written as a long, and a nested value can hold arrays; the bound on the whole bounds every part -/
theorem ser_spec (henv : EnvOk env) (hl : cfg.lim < 2^63) (tbs : Option Nat) (fuel : Nat) :
    ∀ (s0 : Schema) (x : SerdeVal) (r : Bytes × Nat),
      SerOk cfg env s0 x → serS tbs env fuel s0 x = .ok r → r.1.length < 2^63 → ∃ v, SpecEnc cfg env s0 v r.1 := by
  induction fuel with
  | zero => intro _ _ _ _ h; cases h
  | succ fuel ih =>
    intro s0 x r hok h hb
    obtain ⟨s, hd, hs⟩ := serS_ok h
    suffices ∃ v, SpecEnc cfg env s v r.1 from this.imp fun v hv => spec_of_deref henv hd hv
    cases hok with
    | bool | f32 | f64 | unit =>
      obtain ⟨rfl, rfl⟩ := hs
      exact ⟨_, by constructor⟩
    | i8 hn | i16 hn | i32 hn | u8 hn | u16 hn =>
      obtain ⟨hi, rfl⟩ := hs
      exact intLike_spec hi hn
    | i64 hn | u32 hn =>
      obtain ⟨hi, rfl⟩ := hs
      exact longLike_spec hi hn
    | char hv hlen =>
      obtain ⟨rfl, rfl⟩ := hs
      rw [withLen_spec (by omega)]
      exact ⟨_, .string hlen hv⟩
    | str hs' hv hlen =>
      cases hd.symm.trans hs'
      cases hs.2
      rw [withLen_spec (by omega)]
      exact ⟨_, .string hlen hv⟩
    | unitStruct =>
      obtain ⟨_, rfl, -, rfl⟩ := hs
      exact ⟨_, .record .nil⟩
    | none =>
      obtain ⟨bs, ni, rfl, hni, rfl⟩ := hs
      obtain ⟨-, hlt, hnull⟩ := optionNullIndex_some hni
      rw [varint_spec (by omega)]
      exact ⟨.union ni .null, by simpa using SpecEnc.union (cfg := cfg) (env := env) hnull (by omega) .null⟩
    | some hv =>
      obtain ⟨bs, ni, br, vb, vn, rfl, hni, hbr, hsv, rfl⟩ := hs
      simp only [List.length_append] at hb
      obtain ⟨w, hw⟩ := ih br _ _ (hv bs ni br hd hni hbr) hsv (by simp only; omega)
      rw [varint_spec (by omega)]
      exact ⟨_, .union hbr (by omega) hw⟩
    | unitVariant hsy =>
      obtain ⟨en, syms, d, i, rfl, hix, rfl⟩ := hs
      have hlt : i < syms.length := (List.getElem?_eq_some_iff.mp hix).1
      have := hsy en syms d hd
      rw [varint_spec (by omega)]
      exact ⟨_, .enum hix (by omega)⟩
    | newtypeStruct hv =>
      obtain ⟨rn, m, fs, rfl, -, hr⟩ := hs
      obtain ⟨w, hw⟩ := ih fs _ r (hv rn m fs hd) hr hb
      exact ⟨.record [(m.name, w)], .record (by simpa using SpecFields.cons hw .nil)⟩
    | strUuid hs' h16 hu hlim =>
      cases hd.symm.trans hs'
      cases hs.2
      subst hu
      have h36 := (uuid_text _ h16).2.2
      rw [withLen_spec (by omega), h36]
      exact ⟨_, .uuidString h16 hlim⟩
    | bytes hs' ht hlen =>
      cases hd.symm.trans hs'
      unfold bytesTarget at ht
      split at ht
      · cases hs
        rw [withLen_spec (by omega)]
        exact ⟨_, .bytes hlen⟩
      · obtain ⟨rfl, rfl⟩ := hs
        exact ⟨_, .fixed hlen⟩
      · rename_i inner
        cases inner with
        | bytes =>
          cases hs
          rw [withLen_spec (by omega)]
          exact ⟨_, .decimalBytes rfl hlen⟩
        | fixed =>
          obtain ⟨rfl, rfl⟩ := hs
          exact ⟨_, .decimalFixed rfl hlen⟩
      · cases ht
    | bytesUuid hs' hor h16 hlim =>
      cases hd.symm.trans hs'
      rcases hor with rfl | ⟨nm, rfl⟩
      · cases hs
        rw [withLen_spec (by omega), h16]
        exact ⟨_, .uuidBytes h16 hlim⟩
      · cases hs.2
        exact ⟨_, .uuidFixed h16 hlim⟩
    | bytesBigDecimal hs' hsc hlen =>
      cases hd.symm.trans hs'
      cases hs
      rw [withLen_spec (by omega)]
      exact ⟨_, .bigDecimal (primFacts.fromSignedBE_toSignedBE _) hsc hlen⟩
    | @bytesDuration _ nm bb hs' h12 =>
      cases hd.symm.trans hs'
      cases hs.2
      -- twelve bytes are three little-endian 32-bit numbers
      obtain ⟨mo, h1, e1⟩ := exists_leBytes_four (bb.take 4) (by simp [h12])
      obtain ⟨d, h2, e2⟩ := exists_leBytes_four ((bb.drop 4).take 4) (by simp [h12])
      obtain ⟨ms, h3, e3⟩ := exists_leBytes_four ((bb.drop 4).drop 4) (by simp [h12])
      have := SpecEnc.duration (cfg := cfg) (env := env) (name := nm) h1 h2 h3
      rw [e1, e2, e3, List.append_assoc, List.take_append_drop, List.take_append_drop] at this
      exact ⟨_, this⟩
    | @seq _ _ items hlen hl1 hl2 hit =>
      obtain ⟨inner, rfl, hr⟩ := hs
      obtain ⟨ebs, hm, hlay⟩ := blockSer_layout (by simpa using hlen) hr
      obtain ⟨vs, hvs⟩ := items_enc _ ebs hm (fun i hi r => ih inner i r (hit inner hd i hi))
        (Nat.lt_trans (Laid.flatten_lt hlay) hb)
      have hml : vs.length = items.length := by rw [hvs.length, mapM_some_length hm, List.length_map]
      exact ⟨_, .array (array_layout_spec hl hvs (hml ▸ hl1) (hml ▸ hl2) hb hlay)⟩
    | @map _ _ entries hlen hl1 hl2 hnd hkeys hvals =>
      obtain ⟨inner, rfl, hr⟩ := hs
      obtain ⟨ebs, hm, hlay⟩ := blockSer_layout hlen hr
      obtain ⟨es, hes, hks⟩ := entries_enc _ ebs hm (fun kv hkv =>
        have ⟨h1, h2, h3⟩ := hkeys kv hkv
        ⟨fun r => key_bytes hl h1 h3, h2, h3, fun r => ih inner kv.2 r (hvals inner hd kv hkv)⟩)
        (Nat.lt_trans (Laid.flatten_lt hlay) hb)
      have hml : es.length = entries.length := by rw [hes.length, mapM_some_length hm]
      exact ⟨_, .map (map_layout_spec hl hes (hml ▸ hl1) (hml ▸ hl2) hb hlay) (hks ▸ hnd)⟩
    | tupleStruct hrec =>
      obtain ⟨rn, fields, rfl, -, hr⟩ := hs
      obtain ⟨enc, vfs, he, hsf⟩ := tupleFields_spec fields _ [] 0 r
        (fun j i ms h1 h2 r => ih ms.2 i r (hrec rn fields hd j i ms h1 h2)) hr hb
      exact ⟨_, .record (by rw [he]; exact hsf)⟩
    | tuple h1 hrec =>
      obtain ⟨rfl, -, rfl⟩ | ⟨i, rfl, hr⟩ | ⟨rn, fields, rfl, hr⟩ := hs
      · exact ⟨_, .null⟩
      · exact ih s i r (h1 s i hd rfl) hr hb
      · obtain ⟨enc, vfs, he, hsf⟩ := tupleFields_spec fields _ [] 0 r
          (fun j i ms h1 h2 r => ih ms.2 i r (hrec rn fields hd j i ms h1 h2)) hr hb
        exact ⟨_, .record (by rw [he]; exact hsf)⟩
    | struct hgiven hdef =>
      obtain ⟨rn, rfields, st, st', rfl, h1, h2, rfl⟩ := hs
      obtain ⟨bs, hbl, hsp, hout⟩ := record_inv h1 h2
      obtain ⟨vfs, hv⟩ := fields_spec (cfg := cfg) (env := env) rfields bs hbl fun i ms x hf hx => by
        obtain ⟨k, hk⟩ := hsp i x hx
        obtain ⟨ms', v, hf', hv, hor⟩ := specField_ok hk
        cases hf.symm.trans hf'
        have hxl : x.length < 2^63 := by
          have := (List.sublist_flatten_of_mem (List.mem_of_getElem? hx)).length_le
          rw [← hout] at this; exact Nat.lt_of_le_of_lt this hb
        refine ih ms.2 v _ ?_ hv hxl
        rcases hor with ⟨kv, hkm, hkp, hkv⟩ | ⟨d, hdf, hdv⟩
        · exact hgiven rn rfields hd kv hkm v i ms hkv hkp hf
        · exact hdef rn rfields hd ms (List.mem_of_getElem? hf) d v hdf hdv
      exact ⟨_, .record (by rw [hout]; exact hv)⟩

end Avro
