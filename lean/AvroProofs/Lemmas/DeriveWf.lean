import AvroProofs.Lemmas.ParseWf
import AvroModel.Derive
/-!
Local well-formedness of derived schemas (`wfP`, the predicate the parser's output satisfies - C11):
if the names the attributes produce are identifiers and distinct per record, and no definition of the environment has a
`flatten` field or one of the tagged enum representations (`DeriveEnvOk`, a decidable condition on all the definitions,
reachable or not), every schema `deriveTy` returns satisfies `wfP`.  Tuple-variant field
names `field_0 …` are shown to be distinct identifiers outright.
-/
namespace Avro

/-- a decimal digit; a name of its own keeps `simp` from rewriting `UInt8.ofNat (48 + d)` into a sum of bytes -/
def digitByte (d : Nat) : UInt8 := UInt8.ofNat (48 + d)

theorem natDigits_succ (fuel n : Nat) : natDigits (fuel+1) n =
    if n < 10 then [digitByte n] else natDigits fuel (n / 10) ++ [digitByte (n % 10)] := rfl

theorem digitByte_toNat {d : Nat} (h : d < 10) : (digitByte d).toNat = 48 + d := by
  unfold digitByte
  simp only [UInt8.toNat_ofNat']
  omega

theorem digitByte_idChar {d : Nat} (h : d < 10) : isIdChar (digitByte d) = true := by
  have := digitByte_toNat h
  unfold isIdChar isIdStart
  simp only [Bool.or_eq_true, Bool.and_eq_true, decide_eq_true_eq, UInt8.le_iff_toNat_le]
  right
  constructor <;> (simp only [UInt8.toNat_ofNat]; omega)

/-- the number a digit string denotes -/
def digitsVal (bs : Bytes) : Nat := bs.foldl (fun acc c => acc * 10 + (c.toNat - 48)) 0

theorem digitsVal_append (xs : Bytes) (c : UInt8) : digitsVal (xs ++ [c]) = digitsVal xs * 10 + (c.toNat - 48) := by
  simp [digitsVal, List.foldl_append]

theorem natDigits_val (fuel n : Nat) (h : n < fuel) : digitsVal (natDigits fuel n) = n := by
  induction fuel generalizing n with
  | zero => omega
  | succ fuel ih =>
    rw [natDigits_succ]
    split
    next hn => simp [digitsVal, digitByte_toNat hn]
    · rw [digitsVal_append, ih (n / 10) (by omega), digitByte_toNat (Nat.mod_lt n (by omega))]
      omega

theorem natDigits_idChars (fuel n : Nat) : (natDigits fuel n).all isIdChar = true := by
  induction fuel generalizing n with
  | zero => rfl
  | succ fuel ih =>
    rw [natDigits_succ]
    split
    next hn => simp [digitByte_idChar hn]
    · simp [ih, digitByte_idChar (Nat.mod_lt n (by omega : 0 < 10))]

theorem natBytes_inj {a b : Nat} (h : natBytes a = natBytes b) : a = b := by
  have ha := natDigits_val (a+1) a (by omega)
  have hb := natDigits_val (b+1) b (by omega)
  unfold natBytes at h
  rw [h] at ha
  omega

def tupleFieldName (i : Nat) : Bytes := b!"field_" ++ natBytes i

theorem isIdent_append {a b : Bytes} (ha : isIdent a = true) (hb : b.all isIdChar = true) : isIdent (a ++ b) = true := by
  cases a with
  | nil => cases ha
  | cons c rest =>
    simp only [isIdent, Bool.and_eq_true] at ha
    simp only [List.cons_append, isIdent, List.all_append, ha.1, ha.2, hb, Bool.and_self]

theorem tupleFieldName_ident (i : Nat) : isIdent (tupleFieldName i) = true :=
  isIdent_append (by decide) (natDigits_idChars _ _)

theorem tupleFieldName_inj {a b : Nat} (h : tupleFieldName a = tupleFieldName b) : a = b := by
  unfold tupleFieldName at h
  exact natBytes_inj (List.append_cancel_left h)

/-- no field is flattened (skipped or not), and the names a definition's attributes give to its unskipped fields are
identifiers, pairwise distinct and distinct from each other's aliases -/
def fieldsOk (rule : RenameRule) (fs : List FieldDef) : Bool :=
  let live := fs.filter (fun f => !f.skip)
  fs.all (fun f => !f.flatten) && live.all (fun f => isIdent (fieldName f rule)) &&
    lookupOkNames (live.map (fun f => (fieldName f rule, f.aliases))) []

def variantOk (rulef : RenameRule) (v : VariantDef) : Bool :=
  match v.shape with
  | .struct fields => fieldsOk (v.renameAll.or rulef) fields
  | _ => true

def typeDefOk : TypeDef → Bool
  | .struct _ _ _ _ rule fields => fieldsOk rule fields
  | .enum _ _ _ _ rule rulef variants =>
    let live := variants.filter (fun v => !v.skip)
    if plainLike variants then
      (live.map (fun v => variantName v rule)).all isIdent && decide (live.map (fun v => variantName v rule)).Nodup
    else live.all (variantOk rulef)
  | .transparent _ _ => true
  | .enumRepr _ _ _ _ _ _ _ _ => false      -- the other representations are outside this theorem

def DeriveEnvOk (env : DEnv) : Prop := ∀ td ∈ env, typeDefOk td = true

theorem recordOf_ok {pn : PName} {al : Option (List PName)} {doc : Option Bytes} {fs : List (FieldHdr × PSchema)}
    {attrs : Attrs} {n : List PName} :
    Yields (recordOf pn al doc fs attrs n) fun o => o = (.record pn al doc fs attrs, n) := by
  unfold recordOf
  split
  · exact .some rfl
  · exact .none

/-- the induction hypothesis about the recursive call `go` (`deriveTy` one unit of fuel down) -/
def GoodD (go : List PName → Option Bytes → TyExpr → DOut) : Prop :=
  ∀ named ns t, Yields (go named ns t) fun r => wfP r.1 = true

variable {go : List PName → Option Bytes → TyExpr → DOut} {goF : List PName → Option Bytes → TyExpr → DFields}
  {dflt : TyExpr → Option Json}

/-- a record is well formed when its fields carry names (with their aliases) that are identifiers and
pass the lookup-table check, and schemas that `go` returned -/
theorem record_wf (hg : GoodD go) {ns : Option Bytes} {out : List (FieldHdr × PSchema)} {names : List (Bytes × List Bytes)}
    (hn : out.map (fun o => (o.1.name, o.1.aliases)) = names) (hgo : ∀ o ∈ out, ∃ n t n', go n ns t = some (o.2, n'))
    (hid : ∀ p ∈ names, isIdent p.1 = true) (hl : lookupOkNames names [] = true) {pn : PName} (hpn : pn.ok = true)
    (al : Option (List PName)) (doc : Option Bytes) (attrs : Attrs) : wfP (.record pn al doc out attrs) = true := by
  subst hn
  refine wfP_record.mpr ⟨hpn, fieldLookupOk_names out [] ▸ hl,
    wfPFields_iff.mpr fun o ho => ⟨hid _ (List.mem_map_of_mem ho), ?_⟩⟩
  obtain ⟨n, t, n', h⟩ := hgo o ho
  exact hg _ _ _ _ h

/-- what `deriveFieldsWith` returns when nothing is flattened: one field per unskipped definition, in
order, under serde's name and with the definition's aliases, of a schema that `go` returned -/
theorem deriveFields_ok {rule : RenameRule} {fs : List FieldDef} {named : List PName} {ns : Option Bytes}
    (hnf : fs.all (fun f => !f.flatten) = true) :
    Yields (deriveFieldsWith go goF dflt rule fs named ns) fun r =>
      r.1.map (fun o => (o.1.name, o.1.aliases)) =
          (fs.filter (fun f => !f.skip)).map (fun f => (fieldName f rule, f.aliases)) ∧
        ∀ o ∈ r.1, ∃ n t n', go n ns t = some (o.2, n') := by
  fun_induction deriveFieldsWith go goF dflt rule fs named ns <;> try exact .none
  next => exact .some ⟨rfl, nofun⟩
  next hs ih =>
    simp only [List.all_cons, Bool.and_eq_true] at hnf
    simpa only [List.filter_cons, hs, Bool.not_true, Bool.false_eq_true, if_false] using ih hnf.2
  next hf _ _ _ _ _ _ _ => simp [hf] at hnf
  next hs _ _ _ hgo _ _ hr _ ih =>
    simp only [List.all_cons, Bool.and_eq_true] at hnf
    obtain ⟨ih1, ih2⟩ := ih hnf.2 _ hr
    rw [List.filter_cons_of_pos (by simpa using hs)]
    exact .some ⟨congrArg (_ :: ·) ih1, List.forall_mem_cons.mpr ⟨⟨_, _, _, hgo⟩, ih2⟩⟩

theorem deriveFields_record_wf (hg : GoodD go) {rule : RenameRule} {fs : List FieldDef} {named : List PName}
    {ns : Option Bytes} {out : List (FieldHdr × PSchema)} {named' : List PName}
    (h : deriveFieldsWith go goF dflt rule fs named ns = some (out, named')) (hok : fieldsOk rule fs = true)
    {pn : PName} (hpn : pn.ok = true) (al : Option (List PName)) (doc : Option Bytes) (attrs : Attrs) :
    wfP (.record pn al doc out attrs) = true := by
  unfold fieldsOk at hok
  simp only [Bool.and_eq_true, List.all_eq_true] at hok
  obtain ⟨hn, hgo⟩ := deriveFields_ok (List.all_eq_true.mpr hok.1.1) _ h
  refine record_wf hg hn hgo (fun p hp => ?_) hok.2 hpn al doc attrs
  obtain ⟨f, hf, rfl⟩ := List.mem_map.mp hp
  exact hok.1.2 f hf

theorem deriveTupleFields_ok {tys : List TyExpr} {i : Nat} {named : List PName} {ns : Option Bytes} :
    Yields (deriveTupleFieldsWith go dflt tys i named ns) fun r =>
      r.1.map (fun o => (o.1.name, o.1.aliases)) = (List.range' i tys.length).map (fun k => (tupleFieldName k, [])) ∧
        ∀ o ∈ r.1, ∃ n t n', go n ns t = some (o.2, n') := by
  fun_induction deriveTupleFieldsWith go dflt tys i named ns <;> try exact .none
  next => exact .some ⟨rfl, nofun⟩
  next hgo _ _ hr _ ih =>
    obtain ⟨ih1, ih2⟩ := ih _ hr
    exact .some ⟨congrArg ((tupleFieldName _, []) :: ·) ih1, List.forall_mem_cons.mpr ⟨⟨_, _, _, hgo⟩, ih2⟩⟩

theorem lookupOk_tuple (i n : Nat) :
    lookupOkNames ((List.range' i n).map (fun k => (tupleFieldName k, []))) [] = true :=
  lookupOkNames_iff.mpr ⟨fun _ _ => List.not_mem_nil, List.pairwise_map.mpr <|
    (List.pairwise_lt_range' (s := i) (n := n)).imp fun hlt =>
      ⟨fun he => by have := tupleFieldName_inj he; omega, List.not_mem_nil⟩⟩

theorem deriveTupleFields_record_wf (hg : GoodD go) {tys : List TyExpr} {named : List PName} {ns : Option Bytes}
    {out : List (FieldHdr × PSchema)} {named' : List PName}
    (h : deriveTupleFieldsWith go dflt tys 0 named ns = some (out, named'))
    {pn : PName} (hpn : pn.ok = true) (al : Option (List PName)) (doc : Option Bytes) (attrs : Attrs) :
    wfP (.record pn al doc out attrs) = true := by
  obtain ⟨hn, hgo⟩ := deriveTupleFields_ok _ h
  refine record_wf hg hn hgo (fun p hp => ?_) (lookupOk_tuple 0 _) hpn al doc attrs
  obtain ⟨k, _, rfl⟩ := List.mem_map.mp hp
  exact tupleFieldName_ident k

/-- a variant derives to a record under serde's name for it, with the fields its shape gives -/
theorem deriveVariant_ok {r rf : RenameRule} {v : VariantDef} {named : List PName} {ns : Option Bytes} :
    Yields (deriveVariantWith go goF dflt r rf v named ns) fun o =>
      ∃ pn fs attrs, PName.make (variantName v r) ns = some pn ∧ o.1 = .record pn none none fs attrs ∧
        match v.shape with
        | .unit => fs = []
        | .tuple tys => ∃ n', deriveTupleFieldsWith go dflt tys 0 named ns = some (fs, n')
        | .struct fields => ∃ n', deriveFieldsWith go goF dflt (v.renameAll.or rf) fields named ns = some (fs, n') := by
  fun_cases deriveVariantWith go goF dflt r rf v named ns <;> try exact .none
  next pn hm hsh => exact .some ⟨pn, [], [], hm, rfl, by rw [hsh]⟩
  next pn hm _ hsh fs n' hr attrs =>
    exact Yields.imp recordOf_ok fun _ e => e ▸ ⟨pn, fs, attrs, hm, rfl, by rw [hsh]; exact ⟨n', hr⟩⟩
  next pn hm _ hsh fs n' hr =>
    exact Yields.imp recordOf_ok fun _ e => e ▸ ⟨pn, fs, [], hm, rfl, by rw [hsh]; exact ⟨n', hr⟩⟩

theorem deriveVariant_wf (hg : GoodD go) {r rf : RenameRule} {v : VariantDef} {named : List PName} {ns : Option Bytes}
    {s : PSchema} {named' : List PName} (h : deriveVariantWith go goF dflt r rf v named ns = some (s, named'))
    (hok : variantOk rf v = true) : wfP s = true := by
  obtain ⟨pn, fs, attrs, hm, rfl, hsh⟩ := deriveVariant_ok _ h
  unfold variantOk at hok
  split at hsh
  · subst hsh; exact wfP_record.mpr ⟨make_ok hm, rfl, rfl⟩
  · obtain ⟨n', hr⟩ := hsh
    exact deriveTupleFields_record_wf hg hr (make_ok hm) ..
  next hshape =>
    obtain ⟨n', hr⟩ := hsh
    exact deriveFields_record_wf hg hr (by simpa only [hshape] using hok) (make_ok hm) ..

/-- what `deriveVariantsWith` returns: one schema per unskipped variant, in order, each the record that
variant derives to -/
theorem deriveVariants_ok {r rf : RenameRule} {vs : List VariantDef} {named : List PName} {ns : Option Bytes} :
    Yields (deriveVariantsWith go goF dflt r rf vs named ns) fun o =>
      o.1.map PSchema.pname? = (vs.filter (fun v => !v.skip)).map (fun v => PName.make (variantName v r) ns) ∧
        ∀ s ∈ o.1, ∃ v ∈ vs.filter (fun v => !v.skip), ∃ n n', deriveVariantWith go goF dflt r rf v n ns = some (s, n') := by
  fun_induction deriveVariantsWith go goF dflt r rf vs named ns <;> try exact .none
  next => exact .some ⟨rfl, nofun⟩
  next hs ih => simpa only [List.filter_cons, hs, Bool.not_true, Bool.false_eq_true, if_false] using ih
  next v _ _ _ hs _ _ hv _ _ hr ih =>
    obtain ⟨ih1, ih2⟩ := ih _ hr
    obtain ⟨pn, _, _, hpn, rfl, _⟩ := deriveVariant_ok _ hv
    rw [List.filter_cons_of_pos (by simpa using hs)]
    exact .some ⟨by simp only [List.map_cons, ih1, hpn, PSchema.pname?], List.forall_mem_cons.mpr
      ⟨⟨v, List.mem_cons_self, _, _, hv⟩, fun s hs => (ih2 s hs).imp fun w hw => ⟨List.mem_cons_of_mem _ hw.1, hw.2⟩⟩⟩

theorem deriveVariants_wf (hg : GoodD go) {r rf : RenameRule} {vs : List VariantDef} {named : List PName}
    {ns : Option Bytes} {out : List PSchema} {named' : List PName}
    (h : deriveVariantsWith go goF dflt r rf vs named ns = some (out, named'))
    (hok : (vs.filter (fun v => !v.skip)).all (variantOk rf) = true) : wfPList out = true :=
  wfPList_iff.mpr fun s hs => by
    obtain ⟨v, hv, _, _, hd⟩ := (deriveVariants_ok _ h).2 s hs
    exact deriveVariant_wf hg hd (List.all_eq_true.mp hok v hv)

theorem rustFixed_wf {ty : Bytes} {size : Nat} {named : List PName}
    (hok : PName.ok ⟨some b!"org.apache.avro.rust", ty⟩ = true) :
    Yields (rustFixed ty size named) fun r => wfP r.1 = true := by
  unfold rustFixed
  dsimp only
  split <;> exact .some (by simpa only [wfP] using hok)

/-- the default the derive gives a plain enum is one of its symbols -/
theorem optMem_find_map {α : Type} (p : α → Bool) (f : α → Bytes) (l : List α) :
    optMem ((l.find? p).map f) (l.map f) = true := by
  cases h : l.find? p with
  | none => rfl
  | some v => exact List.contains_iff_mem.mpr (List.mem_map_of_mem (List.mem_of_find?_eq_some h))

theorem deriveTy_good (env : DEnv) (henv : DeriveEnvOk env) (fuel : Nat) : GoodD (deriveTy env fuel) := by
  induction fuel with
  | zero => exact fun _ _ _ => .none
  | succ fuel ih =>
    intro named ns t
    -- the arms without a nested `match` hold by computation; only the other two are unfolded
    cases t
    case bool | i8 | i16 | i32 | i64 | u8 | u16 | u32 | f32 | f64 | string | char => exact .some rfl
    case u64 | i128 | u128 => exact rustFixed_wf (by decide)
    case boxed t' => exact ih _ _ _
    case vec t' | map t' =>
      intro r h
      obtain ⟨r', hr, rfl⟩ := Option.map_eq_some_iff.mp h
      exact ih _ _ _ r' hr
    case option t' =>
      unfold deriveTy
      dsimp only
      split <;> try exact .none
      next s' n' hr =>
      split <;> try exact .none
      next hu => exact .some (wfP_union.mpr ⟨hu, by simp only [wfPList, wfP, ih _ _ _ _ hr, Bool.and_self]⟩)
    case named ident =>
      unfold deriveTy
      dsimp only
      split <;> try exact .none                     -- `env.find? ident`; not defined
      · split                                       -- a transparent struct: what its one field derives to
        · exact ih _ _ _
        · exact .none
      next hf => exact nomatch henv _ (List.mem_of_find?_eq_some hf)     -- a tagged representation: not in `DeriveEnvOk`
      next name doc aliases rule fields hf =>       -- a struct
        have htd : fieldsOk rule fields = true := henv _ (List.mem_of_find?_eq_some hf)
        split <;> try exact .none                   -- `PName.make`
        next pn hm =>
        split                                       -- already defined: a reference
        · exact .some (make_ok hm)
        split <;> try exact .none                   -- `deriveAliases`
        split <;> try exact .none                   -- `deriveFieldsWith`
        next fs n2 hr =>
        exact recordOf_ok.imp fun _ e => e ▸ deriveFields_record_wf ih hr htd (make_ok hm) ..
      next name doc aliases rule rulef variants hf =>     -- an enum
        have htd := henv _ (List.mem_of_find?_eq_some hf)
        unfold typeDefOk at htd
        split                                       -- `plainLike variants`
        next hp =>                                  -- a plain enum
          simp only [hp, if_true, Bool.and_eq_true, decide_eq_true_eq] at htd
          split <;> try exact .none                 -- `PName.make`
          next pn hm =>
          split                                     -- already defined: a reference
          · exact .some (make_ok hm)
          split <;> try exact .none                 -- `deriveAliases`
          exact .some (wfP_enum.mpr ⟨make_ok hm, htd.1, htd.2, optMem_find_map _ _ _⟩)
        next hp =>                                  -- a union of records
          simp only [hp, Bool.false_eq_true, if_false] at htd
          split <;> try exact .none                 -- `deriveVariantsWith`
          next ss n2 hr =>
          split <;> try exact .none                 -- `unionNew`
          next hu => exact .some (wfP_union.mpr ⟨hu, deriveVariants_wf ih hr htd⟩)

end Avro
