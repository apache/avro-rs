import AvroProofs.Lemmas.Datum
/-!
Readers as compositions.  The model writes every reader with explicit `match`es on `Except`; here each of them is shown
equal to a composition of `rbind` (sequencing) and `rret` (a step that reads nothing) over the readers that touch the
input (`decodeVar`, `takeExact`) and the loops; one level of `decode` is `decodeStep`, a
composition over the decoder one level down (`decode_succ`).  What a successful read means is then read off mechanically
(`rbind_eq_ok`, `rret_eq_ok`), and two properties are closed under the compositions:
* `Framed f`: a successful read consumed a prefix of its input and does not depend on what follows it;
* `Post f P`: whatever `f` returns satisfies `P`.
-/
namespace Avro

def rbind {α β : Type} (f : Reader α) (g : α → Reader β) : Reader β :=
  fun bs => match f bs with
    | .ok (a, r) => g a r
    | .error e => .error e

def rret {β : Type} (x : Except Err β) : Reader β :=
  fun r => match x with
    | .ok b => .ok (b, r)
    | .error e => .error e

section
variable {α β : Type} {f : Reader α} {g : α → Reader β}

theorem rbind_eq_ok {bs r : Bytes} {v : β} :
    rbind f g bs = .ok (v, r) ↔ ∃ a r', f bs = .ok (a, r') ∧ g a r' = .ok (v, r) := by
  unfold rbind
  rcases f bs with e | ⟨a, r'⟩
  · simp
  · exact ⟨fun h => ⟨a, r', rfl, h⟩, fun ⟨_, _, h1, h2⟩ => by cases h1; exact h2⟩

theorem rret_eq_ok {x : Except Err β} {r' r : Bytes} {v : β} : rret x r' = .ok (v, r) ↔ x = .ok v ∧ r' = r := by
  unfold rret
  cases x <;> simp

/-- a successful read consumed a prefix `c` of its input, returns the rest untouched, and gives the same value
whatever follows `c` -/
def Framed (f : Reader α) : Prop :=
  ∀ bs v r, f bs = .ok (v, r) → ∃ c, bs = c ++ r ∧ ∀ q, f (c ++ q) = .ok (v, q)

def Post (f : Reader α) (P : α → Prop) : Prop := ∀ bs v r, f bs = .ok (v, r) → P v

theorem Framed.bind (hf : Framed f) (hg : ∀ a, Framed (g a)) : Framed (rbind f g) := by
  intro bs v r h
  obtain ⟨a, r1, hfb, hga⟩ := rbind_eq_ok.mp h
  obtain ⟨c1, rfl, hq1⟩ := hf bs a r1 hfb
  obtain ⟨c2, rfl, hq2⟩ := hg a r1 v r hga
  exact ⟨c1 ++ c2, (List.append_assoc ..).symm, fun q => by
    rw [List.append_assoc]; exact rbind_eq_ok.mpr ⟨a, _, hq1 _, hq2 q⟩⟩

theorem Framed.ret (x : Except Err β) : Framed (rret x) := by
  intro bs v r h
  obtain ⟨rfl, rfl⟩ := rret_eq_ok.mp h
  exact ⟨[], rfl, fun q => rfl⟩

theorem Framed.ite {c : Prop} [Decidable c] {f g : Reader β} (hf : c → Framed f) (hg : ¬c → Framed g) :
    Framed (if c then f else g) := by
  split
  · exact hf ‹_›
  · exact hg ‹_›

theorem Post.bind {P : α → Prop} {Q : β → Prop} (hf : Post f P) (hg : ∀ a, P a → Post (g a) Q) : Post (rbind f g) Q := by
  intro bs v r h
  obtain ⟨a, r1, hfb, hga⟩ := rbind_eq_ok.mp h
  exact hg a (hf bs a r1 hfb) r1 v r hga

theorem Post.ret {x : Except Err β} {Q : β → Prop} (h : ∀ b, x = .ok b → Q b) : Post (rret x) Q :=
  fun _ v _ hr => h v (rret_eq_ok.mp hr).1

theorem Post.ok {b : β} {Q : β → Prop} (h : Q b) : Post (rret (.ok b)) Q := .ret fun _ e => by cases e; exact h

theorem Post.error {e : Err} {Q : β → Prop} : Post (rret (.error e) : Reader β) Q := .ret fun _ h => by cases h

theorem Post.trivial : Post f fun _ => True := fun _ _ _ _ => True.intro

theorem Post.ite {c : Prop} [Decidable c] {f g : Reader β} {Q : β → Prop} (hf : c → Post f Q) (hg : ¬c → Post g Q) :
    Post (if c then f else g) Q := by
  split
  · exact hf ‹_›
  · exact hg ‹_›

theorem Post.ret_ite {c : Prop} [Decidable c] {x y : Except Err β} {Q : β → Prop}
    (hx : c → Post (rret x) Q) (hy : ¬c → Post (rret y) Q) : Post (rret (if c then x else y)) Q := by
  split
  · exact hx ‹_›
  · exact hy ‹_›

/-- what a framed reader accepts whole is prefix-free -/
theorem Framed.prefix_free (hf : Framed f) {a q : Bytes} {va vb : α}
    (ha : f a = .ok (va, [])) (hb : f (a ++ q) = .ok (vb, [])) : q = [] ∧ va = vb := by
  obtain ⟨c, hc, hq⟩ := hf a va [] ha
  rw [List.append_nil] at hc
  rw [hc, hq q] at hb
  cases hb
  exact ⟨rfl, rfl⟩

/-- a framed reader never succeeds on a strict prefix of what it consumed -/
theorem Framed.prefix_error (hf : Framed f) {c : Bytes} {v : α}
    (h : f c = .ok (v, [])) {p q : Bytes} (hp : c = p ++ q) (hq : q ≠ []) : ∃ e, f p = .error e := by
  cases hd : f p with
  | error e => exact ⟨e, rfl⟩
  | ok res =>
    obtain ⟨c', rfl, hframe⟩ := hf p res.1 res.2 hd
    have := hf.prefix_free (q := res.2 ++ q) (by simpa using hframe []) (by rw [← List.append_assoc, ← hp]; exact h)
    exact absurd (List.append_eq_nil_iff.mp this.1).2 hq

end

/-! ### the model's readers as compositions

Each equation by the case principle Lean derives from the model's definition: one goal per leaf of its match tree, in which
the hypotheses of the leaf evaluate the composition to what the leaf returns. -/

theorem decLong_eq : decLong = rbind decodeVar fun z => rret (.ok (zag z)) := by
  funext bs; fun_cases decLong bs <;> simp only [rbind, rret, *]

theorem decInt_eq : decInt = rbind decLong fun n =>
    rret (if -2147483648 ≤ n ∧ n < 2147483648 then .ok n else .error .i32Range) := by
  funext bs; fun_cases decInt bs <;> simp only [rbind, rret, *, and_self, if_true, if_false]

theorem decLen_eq (lim : Nat) : decLen lim = rbind decLong fun n =>
    rret (if n < 0 then .error .negLen else safeLen lim n.toNat) := by
  funext bs; fun_cases decLen lim bs <;> simp only [rbind, rret, *, if_true, if_false]

theorem readUsize_eq : readUsize = rbind decLong fun n => rret (if n < 0 then .error .negLen else .ok n.toNat) := by
  funext bs; fun_cases readUsize bs <;> simp only [rbind, rret, *, if_true, if_false]

theorem decSeqLen_eq (lim : Nat) : decSeqLen lim = rbind decLong fun raw =>
    if raw = 0 then rret (.ok 0)
    else if raw < 0 then rbind decLong fun _ =>
      rret (if raw = -9223372036854775808 then .error .overflow else safeLen lim (-raw).toNat)
    else rret (safeLen lim raw.toNat) := by
  funext bs; fun_cases decSeqLen lim bs <;> simp only [rbind, rret, *, if_true, if_false]

theorem decBytes_eq (lim : Nat) : decBytes lim = rbind (decLen lim) takeExact := by
  funext bs; fun_cases decBytes lim bs <;> simp only [rbind, *]

theorem decString_eq (lim : Nat) : decString lim = rbind (decBytes lim) fun b =>
    rret (if validUtf8 b then .ok b else .error .badUtf8) := by
  funext bs; fun_cases decString lim bs <;> simp only [rbind, rret, *, Bool.false_eq_true, if_true, if_false]

theorem decFixed_eq (lim size : Nat) : decFixed lim size = rbind (rret (safeLen lim size)) fun _ => takeExact size := by
  funext bs; fun_cases decFixed lim size bs <;> simp only [rbind, rret, *]

theorem decEntryWith_eq (lim : Nat) (f : Reader Value) : decEntryWith lim f =
    rbind (decString lim) fun k => rbind f fun v => rret (.ok (k, v)) := by
  funext bs; fun_cases decEntryWith lim f bs <;> simp only [rbind, rret, *]

theorem framed_takeExact (n : Nat) : Framed (takeExact n) := by
  intro bs v r h
  obtain ⟨rfl, hb⟩ := takeExact_eq_ok.mp h
  exact ⟨v, hb, fun q => takeExact_append v q⟩

theorem framed_decodeVar : Framed decodeVar := fun _ _ _ h =>
  let ⟨c, hc, _, _, _, _, hq⟩ := decodeVar_ok h
  ⟨c, hc, hq⟩

theorem framed_decLong : Framed decLong := by
  rw [decLong_eq]; exact framed_decodeVar.bind fun _ => .ret _

theorem framed_decInt : Framed decInt := by
  rw [decInt_eq]; exact framed_decLong.bind fun _ => .ret _

theorem framed_readUsize : Framed readUsize := by
  rw [readUsize_eq]; exact framed_decLong.bind fun _ => .ret _

theorem framed_decLen (lim : Nat) : Framed (decLen lim) := by
  rw [decLen_eq]; exact framed_decLong.bind fun _ => .ret _

theorem framed_decSeqLen (lim : Nat) : Framed (decSeqLen lim) := by
  rw [decSeqLen_eq]
  exact framed_decLong.bind fun raw =>
    .ite (fun _ => .ret _) fun _ => .ite (fun _ => framed_decLong.bind fun _ => .ret _) fun _ => .ret _

theorem framed_decBytes (lim : Nat) : Framed (decBytes lim) := by
  rw [decBytes_eq]; exact (framed_decLen lim).bind framed_takeExact

theorem framed_decString (lim : Nat) : Framed (decString lim) := by
  rw [decString_eq]; exact (framed_decBytes lim).bind fun _ => .ret _

theorem framed_decFixed (lim size : Nat) : Framed (decFixed lim size) := by
  rw [decFixed_eq]; exact (Framed.ret _).bind fun _ => framed_takeExact size

theorem framed_decEntryWith (lim : Nat) {f : Reader Value} (hf : Framed f) : Framed (decEntryWith lim f) := by
  rw [decEntryWith_eq]; exact (framed_decString lim).bind fun _ => hf.bind fun _ => .ret _

theorem post_decLong : Post decLong i64ok := by
  rw [decLong_eq]; exact Post.trivial.bind fun z _ => .ok (zag_range z)

theorem post_decInt : Post decInt i32ok := by
  rw [decInt_eq]; exact Post.trivial.bind fun n _ => .ret_ite (fun h => .ok h) fun _ => .error

theorem post_decLen (lim : Nat) : Post (decLen lim) (· ≤ lim) := by
  rw [decLen_eq]; exact Post.trivial.bind fun n _ => .ret_ite (fun _ => .error) fun _ => .ret fun _ => safeLen_le

theorem post_decSeqLen (lim : Nat) : Post (decSeqLen lim) (· ≤ lim) := by
  rw [decSeqLen_eq]
  refine Post.trivial.bind fun raw _ => .ite (fun _ => .ok (Nat.zero_le _)) fun _ => .ite (fun _ => ?_) fun _ => ?_
  · exact Post.trivial.bind fun _ _ => .ret_ite (fun _ => .error) fun _ => .ret fun _ => safeLen_le
  · exact .ret fun _ => safeLen_le

theorem post_takeExact (n : Nat) : Post (takeExact n) (·.length = n) :=
  fun _ _ _ h => (takeExact_eq_ok.mp h).1

theorem post_decBytes (lim : Nat) : Post (decBytes lim) (·.length ≤ lim) := by
  rw [decBytes_eq]
  exact (post_decLen lim).bind fun k hk _ b _ h => by rw [post_takeExact k _ b _ h]; exact hk

theorem post_decString (lim : Nat) : Post (decString lim) fun b => b.length ≤ lim ∧ validUtf8 b = true := by
  rw [decString_eq]; exact (post_decBytes lim).bind fun b hb => .ret_ite (fun h => .ok ⟨hb, h⟩) fun _ => .error

theorem post_decFixed (lim size : Nat) : Post (decFixed lim size) fun b => b.length = size ∧ size ≤ lim := by
  rw [decFixed_eq]
  refine Post.bind (P := fun _ => size ≤ lim) (.ret fun _ h => (safeLen_eq_ok.mp h).2) fun _ hs _ b _ h => ?_
  exact ⟨post_takeExact size _ b _ h, hs⟩

theorem decodeN_succ {α : Type} (f : Reader α) (n : Nat) (acc : List α) :
    decodeN f (n+1) acc = rbind f fun v => decodeN f n (v :: acc) := by
  funext bs; simp only [decodeN, rbind]; rcases f bs with _ | ⟨_, _⟩ <;> rfl

theorem framed_decodeN {α : Type} {f : Reader α} (hf : Framed f) : ∀ (n : Nat) (acc : List α), Framed (decodeN f n acc)
  | 0, acc => Framed.ret (.ok acc.reverse)
  | n+1, acc => by rw [decodeN_succ]; exact hf.bind fun v => framed_decodeN hf n (v :: acc)

theorem post_decodeN {α : Type} {f : Reader α} {P : α → Prop} (hf : Post f P) :
    ∀ (n : Nat) (acc : List α), (∀ a ∈ acc, P a) →
      Post (decodeN f n acc) fun vs => (∀ v ∈ vs, P v) ∧ vs.length = acc.length + n
  | 0, acc, hacc => Post.ret (x := .ok acc.reverse) fun _ h => by cases h; exact ⟨by simpa using hacc, by simp⟩
  | n+1, acc, hacc => by
    rw [decodeN_succ]
    refine hf.bind fun v hv => ?_
    intro bs vs r h
    obtain ⟨hall, hlen⟩ := post_decodeN hf n (v :: acc)
      (fun a ha => (List.mem_cons.mp ha).elim (fun e => e ▸ hv) (hacc a)) bs vs r h
    exact ⟨hall, by simp at hlen; omega⟩

/-! ### the block loop of arrays and maps, once -/

/-- `arrayLoop` and `mapLoop` with what they differ in as parameters: the `size_of` factor and how a
decoded block joins the accumulator -/
def blockLoop {α : Type} (lim sz : Nat) (f : Reader α) (join : List α → List α → List α) : Nat → List α → Reader (List α)
  | 0, _ => fun _ => .error .fuel
  | bfuel+1, acc =>
    rbind (decSeqLen lim) fun len =>
      if len = 0 then rret (.ok acc)
      else if acc.length + len ≥ 2^64 then rret (.error .overflow)
      else rbind (rret (safeCollectionLen lim sz (acc.length + len))) fun _ =>
        rbind (decodeN f len []) fun items => blockLoop lim sz f join bfuel (join acc items)

theorem arrayLoop_eq (cfg : Cfg) (f : Reader Value) (bfuel : Nat) (acc : List Value) (bs : Bytes) :
    arrayLoop cfg f bfuel acc bs = blockLoop cfg.lim cfg.szValue f (· ++ ·) bfuel acc bs := by
  fun_induction arrayLoop cfg f bfuel acc bs <;> simp only [blockLoop, rbind, rret, *, if_true, if_false]

/-- how `mapLoop` joins a block: `HashMap::insert` entry by entry -/
abbrev insertAll (acc es : List (Bytes × Value)) : List (Bytes × Value) :=
  es.foldl (fun m kv => mapInsert m kv.1 kv.2) acc

theorem insertAll_props (P : Bytes × Value → Prop) (acc es : List (Bytes × Value))
    (h : (acc.map Prod.fst).Nodup ∧ ∀ e ∈ acc, P e) (hes : ∀ e ∈ es, P e) :
    (((insertAll acc es).map Prod.fst).Nodup ∧ ∀ e ∈ insertAll acc es, P e) ∧
      (insertAll acc es).length ≤ acc.length + es.length := by
  induction es generalizing acc with
  | nil => exact ⟨h, by simp⟩
  | cons e tl ih =>
    have := ih (mapInsert acc e.1 e.2) ⟨mapInsert_nodup acc e.1 e.2 h.1, fun x hx => by
        rcases mapInsert_mem acc e.1 e.2 x hx with hm | hm
        · exact h.2 x hm
        · rw [hm]; exact hes e (by simp)⟩
      (fun x hx => hes x (List.mem_cons_of_mem _ hx))
    have hl := mapInsert_length acc e.1 e.2
    exact ⟨this.1, Nat.le_trans this.2 (by simp only [List.length_cons]; omega)⟩

theorem insertAll_eq_append (acc es : List (Bytes × Value)) (h : ((acc ++ es).map Prod.fst).Nodup) :
    insertAll acc es = acc ++ es := by
  induction es generalizing acc with
  | nil => simp
  | cons e tl ih =>
    obtain ⟨k, v⟩ := e
    have hk : k ∉ acc.map Prod.fst := by
      simp only [List.map_append, List.map_cons] at h
      exact fun hin => (List.nodup_append.mp h).2.2 k hin k (by simp) rfl
    show insertAll (mapInsert acc k v) tl = _
    rw [mapInsert_fresh acc k v hk, ih (acc ++ [(k, v)]) (by simpa using h)]
    simp

theorem mapLoop_eq (cfg : Cfg) (f : Reader (Bytes × Value)) (bfuel : Nat) (acc : List (Bytes × Value)) (bs : Bytes) :
    mapLoop cfg f bfuel acc bs = blockLoop cfg.lim cfg.szEntry f insertAll bfuel acc bs := by
  fun_induction mapLoop cfg f bfuel acc bs <;> simp only [blockLoop, rbind, rret, *, if_true, if_false]

section
variable {α : Type} {lim sz : Nat} {f : Reader α} {join : List α → List α → List α}

theorem blockLoop_done (bfuel : Nat) (acc : List α) (rest : Bytes) :
    blockLoop lim sz f join (bfuel+1) acc (0 :: rest) = .ok (acc, rest) := by
  simp [blockLoop, rbind, rret, decSeqLen_zero]

theorem blockLoop_block {hdr benc rest : Bytes} {blk acc : List α} (bfuel : Nat)
    (hhdr : ∀ r, decSeqLen lim (hdr ++ r) = .ok (blk.length, r)) (hne : blk ≠ [])
    (hk : acc.length + blk.length < 2^64) (hsz : (acc.length + blk.length) * sz ≤ lim) (hl : lim < 2^63)
    (hitems : ∀ r, decodeN f blk.length [] (benc ++ r) = .ok (blk, r)) :
    blockLoop lim sz f join (bfuel+1) acc (hdr ++ benc ++ rest) = blockLoop lim sz f join bfuel (join acc blk) rest := by
  have hz : ¬ (blk.length = 0) := fun h => hne (List.length_eq_zero_iff.mp h)
  have ho : ¬ (acc.length + blk.length ≥ 2^64) := by omega
  simp only [blockLoop, rbind, rret, List.append_assoc, hhdr, hz, if_false, ho, safeCollectionLen_eq_ok (u := ()) |>.mpr ⟨by omega, hsz⟩, hitems]

/-- the block loop is framed, with ANY sufficient block budget (every block consumes at least its header) -/
theorem blockLoop_frame (hf : Framed f) : ∀ (bfuel : Nat) (acc : List α) (bs : Bytes) (v : List α) (r : Bytes),
    blockLoop lim sz f join bfuel acc bs = .ok (v, r) →
    ∃ c, bs = c ++ r ∧ ∀ q bfuel', c.length + 1 ≤ bfuel' → blockLoop lim sz f join bfuel' acc (c ++ q) = .ok (v, q) := by
  intro bfuel
  induction bfuel with
  | zero => intro acc bs v r h; simp [blockLoop] at h
  | succ bfuel ih =>
    intro acc bs v r h
    rw [blockLoop, rbind_eq_ok] at h
    obtain ⟨len, r1, hd, h⟩ := h
    obtain ⟨c1, rfl, hq1⟩ := framed_decSeqLen lim bs len r1 hd
    have hc1 : 1 ≤ c1.length := decSeqLen_reads_pos hq1
    by_cases h0 : len = 0
    · rw [if_pos h0, rret_eq_ok] at h
      obtain ⟨⟨⟩, rfl⟩ := h
      refine ⟨c1, rfl, fun q bfuel' hb => ?_⟩
      obtain ⟨k, rfl⟩ : ∃ k, bfuel' = k + 1 := ⟨bfuel' - 1, by omega⟩
      simp only [blockLoop, rbind, hq1, h0, if_true, rret]
    · rw [if_neg h0] at h
      by_cases hov : acc.length + len ≥ 2^64
      · rw [if_pos hov] at h; cases h
      · rw [if_neg hov, rbind_eq_ok] at h
        obtain ⟨u, _, hs, h2⟩ := h
        obtain ⟨hu, rfl⟩ := rret_eq_ok.mp hs
        obtain ⟨items, r2, hn, h3⟩ := rbind_eq_ok.mp h2
        obtain ⟨c2, rfl, hq2⟩ := framed_decodeN hf len [] r1 items r2 hn
        obtain ⟨c3, rfl, hq3⟩ := ih _ r2 v r h3
        refine ⟨c1 ++ c2 ++ c3, by simp, fun q bfuel' hb => ?_⟩
        obtain ⟨k, rfl⟩ : ∃ k, bfuel' = k + 1 := ⟨bfuel' - 1, by omega⟩
        simp only [List.length_append] at hb
        simp only [blockLoop, rbind, rret, List.append_assoc, hq1, h0, hov, hu, hq2, if_false]
        exact hq3 q k (by omega)

/-- what the block loop returns: an invariant `I` of the accumulator that joining a block of `P`-items keeps, and the
allocation bound, cumulatively over all blocks -/
theorem post_blockLoop {P : α → Prop} {I : List α → Prop} (hf : Post f P)
    (hjoin : ∀ acc items, I acc → (∀ x ∈ items, P x) →
      I (join acc items) ∧ (join acc items).length ≤ acc.length + items.length) :
    ∀ (bfuel : Nat) (acc : List α), I acc → acc.length * sz ≤ lim →
      Post (blockLoop lim sz f join bfuel acc) fun out => I out ∧ out.length * sz ≤ lim
  | 0, _, _, _ => fun _ _ _ h => by cases h
  | bfuel+1, acc, hI, hlen => by
    rw [blockLoop]
    refine Post.trivial.bind fun len _ => .ite (fun _ => .ok ⟨hI, hlen⟩) fun _ => .ite (fun _ => .error) fun _ => ?_
    refine Post.bind (P := fun _ => (acc.length + len) * sz ≤ lim) (.ret fun _ h => (safeCollectionLen_eq_ok.mp h).2) fun _ hs => ?_
    refine (post_decodeN hf len [] (by simp)).bind fun items ⟨hP, hl⟩ => ?_
    obtain ⟨hI', hjl⟩ := hjoin acc items hI hP
    exact post_blockLoop hf hjoin bfuel _ hI' (Nat.le_trans (Nat.mul_le_mul_right _ (by simp at hl; omega)) hs)

end

/-- the blocks of one array or map: the loop with the budget `decode` gives it (every block header is at least one byte) -/
def blocks {α : Type} (lim sz : Nat) (f : Reader α) (join : List α → List α → List α) : Reader (List α) :=
  fun bs => blockLoop lim sz f join (bs.length + 1) [] bs

theorem framed_blocks {α : Type} {lim sz : Nat} {f : Reader α} {join : List α → List α → List α} (hf : Framed f) :
    Framed (blocks lim sz f join) := fun bs v r h =>
  let ⟨c, hc, hq⟩ := blockLoop_frame hf _ _ _ _ _ h
  ⟨c, hc, fun q => hq q _ (by simp)⟩

theorem post_arrayBlocks {α : Type} {lim sz : Nat} {f : Reader α} {P : α → Prop} (hf : Post f P) :
    Post (blocks lim sz f (· ++ ·)) fun items => (∀ v ∈ items, P v) ∧ items.length * sz ≤ lim :=
  fun bs => post_blockLoop (I := fun acc => ∀ a ∈ acc, P a) hf
    (fun acc blk hacc hblk => ⟨fun a ha => (List.mem_append.mp ha).elim (hacc a) (hblk a), by simp⟩)
    _ [] (by simp) (by simp) bs

theorem post_mapBlocks {lim sz : Nat} {f : Reader (Bytes × Value)} {P : Bytes × Value → Prop} (hf : Post f P) :
    Post (blocks lim sz f insertAll) fun es => ((es.map Prod.fst).Nodup ∧ ∀ e ∈ es, P e) ∧ es.length * sz ≤ lim :=
  fun bs => post_blockLoop (I := fun acc => (acc.map Prod.fst).Nodup ∧ ∀ e ∈ acc, P e) hf (insertAll_props P)
    _ [] (by simp) (by simp) bs

theorem decodeFieldsWith_cons (f : Schema → Reader Value) (m : FieldMeta) (s : Schema) (rest : List (FieldMeta × Schema)) :
    decodeFieldsWith f ((m, s) :: rest) =
      rbind (f s) fun v => rbind (decodeFieldsWith f rest) fun vs => rret (.ok ((m.name, v) :: vs)) := by
  funext bs; simp only [decodeFieldsWith, rbind]
  rcases f s bs with _ | ⟨_, r⟩
  · rfl
  · dsimp only [rret]; rcases decodeFieldsWith f rest r with _ | ⟨_, _⟩ <;> rfl

theorem framed_decodeFieldsWith {f : Schema → Reader Value} (hf : ∀ s, Framed (f s)) :
    ∀ (fields : List (FieldMeta × Schema)), Framed (decodeFieldsWith f fields)
  | [] => Framed.ret (.ok [])
  | (m, s) :: rest => by
    rw [decodeFieldsWith_cons]
    exact (hf s).bind fun _ => (framed_decodeFieldsWith hf rest).bind fun _ => .ret _

/-! ### the decoder, one level -/

/-- one level of `decode` as a composition; `rec` is the decoder one level down -/
def decodeStep (cfg : Cfg) (env : Names) (rec : Schema → Reader Value) : Schema → Reader Value
  | .null => rret (.ok .null)
  | .boolean => rbind (takeExact 1) fun b =>
    rret (if b = [0] then .ok (.boolean false) else if b = [1] then .ok (.boolean true) else .error .badBool)
  | .int => rbind decInt fun n => rret (.ok (.int n))
  | .date => rbind decInt fun n => rret (.ok (.date n))
  | .timeMillis => rbind decInt fun n => rret (.ok (.timeMillis n))
  | .long => rbind decLong fun n => rret (.ok (.long n))
  | .longL k => rbind decLong fun n => rret (.ok (.longL k n))
  | .float => rbind (takeExact 4) fun b => rret (.ok (.float (UInt32.ofNat (ofLeBytes b))))
  | .double => rbind (takeExact 8) fun b => rret (.ok (.double (UInt64.ofNat (ofLeBytes b))))
  | .bytes => rbind (decBytes cfg.lim) fun b => rret (.ok (.bytes b))
  | .string => rbind (decString cfg.lim) fun b => rret (.ok (.string b))
  | .fixed _ size => rbind (decFixed cfg.lim size) fun b => rret (.ok (.fixed size b))
  | .decimal _ _ (.fixed _ size) =>
    rbind (decFixed cfg.lim size) fun b => rret (.ok (.decimal (fromSignedBE b) b.length))
  | .decimal _ _ .bytes => rbind (decBytes cfg.lim) fun b => rret (.ok (.decimal (fromSignedBE b) b.length))
  | .bigDecimal => rbind (decBytes cfg.lim) fun b =>
    rret (match deserBigDecimal cfg.lim b with | .ok (u, sc) => .ok (.bigDecimal u sc) | .error e => .error e)
  | .uuidString => rbind (decString cfg.lim) fun b =>
    rret (match uuidParse b with | some u => .ok (.uuid u) | none => .error .badUuid)
  | .uuidBytes => rbind (decBytes cfg.lim) fun b => rret (if b.length = 16 then .ok (.uuid b) else .error .badUuid)
  | .uuidFixed _ size =>
    rbind (decFixed cfg.lim size) fun b => rret (if size ≠ 16 then .error .fixedSize else .ok (.uuid b))
  | .duration _ size =>
    if size = 12 then rbind (takeExact 12) fun b =>
      rret (.ok (.duration (ofLeBytes (b.take 4)) (ofLeBytes ((b.drop 4).take 4)) (ofLeBytes (b.drop 8))))
    else rret (.error .fixedSize)
  | .enum _ syms _ => rbind decInt fun i =>
    rret (if i < 0 then .error .badIndex else match syms[i.toNat]? with
      | some sym => .ok (.enum i.toNat sym)
      | none => .error .badIndex)
  | .array inner => rbind (blocks cfg.lim cfg.szValue (rec inner) (· ++ ·)) fun items => rret (.ok (.array items))
  | .map inner => rbind (blocks cfg.lim cfg.szEntry (decEntryWith cfg.lim (rec inner)) insertAll) fun es =>
    rret (.ok (.map es))
  | .union branches => rbind decLong fun idx =>
    if idx < 0 then rret (.error .badIndex)
    else match branches[idx.toNat]? with
      | none => rret (.error .badIndex)
      | some b => rbind (rec b) fun v => rret (.ok (.union (idx.toNat % 2^32) v))
  | .record _ fields => rbind (decodeFieldsWith rec fields) fun fs => rret (.ok (.record fs))
  | .ref n =>
    match env.find? n with
    | some s' => rec s'
    | none => rret (.error .schema)

theorem decode_succ (cfg : Cfg) (env : Names) (fuel : Nat) (s : Schema) :
    decode cfg env (fuel+1) s = decodeStep cfg env (decode cfg env fuel) s := by
  funext bs
  -- for a variable budget: `fun_cases` wants variables for all arguments of `decode`
  have h : ∀ n, decode cfg env n s bs = match n with
      | 0 => .error .fuel
      | k+1 => decodeStep cfg env (decode cfg env k) s bs := by
    intro n
    fun_cases decode cfg env n s bs <;>
      simp only [decodeStep, rbind, rret, blocks, ← arrayLoop_eq, ← mapLoop_eq, takeExact, List.cons.injEq, and_true, ne_eq,
        not_false_eq_true, *, if_true, if_false]
  exact h (fuel+1)

theorem framed_decodeStep (cfg : Cfg) (env : Names) {rec : Schema → Reader Value} (hrec : ∀ s, Framed (rec s)) (s : Schema) :
    Framed (decodeStep cfg env rec s) := by
  cases s with
  | null => exact Framed.ret (.ok Value.null)
  | int | date | timeMillis | «enum» => exact framed_decInt.bind fun _ => .ret _
  | long | longL => exact framed_decLong.bind fun _ => .ret _
  | boolean | float | double => exact (framed_takeExact _).bind fun _ => .ret _
  | bytes | bigDecimal | uuidBytes => exact (framed_decBytes _).bind fun _ => .ret _
  | string | uuidString => exact (framed_decString _).bind fun _ => .ret _
  | fixed | uuidFixed => exact (framed_decFixed _ _).bind fun _ => .ret _
  | decimal p sc inner =>
    cases inner with
    | fixed => exact (framed_decFixed _ _).bind fun _ => .ret _
    | bytes => exact (framed_decBytes _).bind fun _ => .ret _
  | duration n size => exact .ite (fun _ => (framed_takeExact 12).bind fun _ => .ret _) fun _ => .ret _
  | array inner => exact (framed_blocks (hrec inner)).bind fun _ => .ret _
  | map inner => exact (framed_blocks (framed_decEntryWith cfg.lim (hrec inner))).bind fun _ => .ret _
  | union branches =>
    refine framed_decLong.bind fun idx => .ite (fun _ => .ret _) fun _ => ?_
    split
    · exact .ret _
    · exact (hrec _).bind fun _ => .ret _
  | record n fields => exact (framed_decodeFieldsWith hrec fields).bind fun _ => .ret _
  | ref n =>
    simp only [decodeStep]; split
    · exact hrec _
    · exact .ret _

theorem framed_decode (cfg : Cfg) (env : Names) : ∀ (fuel : Nat) (s : Schema), Framed (decode cfg env fuel s)
  | 0, _ => fun _ _ _ h => by cases h
  | fuel+1, s => by rw [decode_succ]; exact framed_decodeStep cfg env (framed_decode cfg env fuel) s

end Avro
