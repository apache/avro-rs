import AvroModel.SchemaParse
/-!
Every schema the parser model accepts is well formed (`wfP`): names, symbols and field names match
the grammars, unions obey the union rules, enum defaults are symbols, field names are unique,
decimals have `1 ≤ precision` and `scale ≤ precision`.  The invariant carried through the parser's
state is that every schema stored in its tables is well formed (`stOk`); `Keeps wf (f …)` says that a step `f` of the
parser returns nothing or a well-formed result and such a state (`Yields`: what a successful run of an option-valued
function guarantees).  The parser functions take the recursive call as a parameter `parse` (the model ties the knot in
`parseJ`, one unit of fuel down), so each `parseX_good` assumes `Good parse` and `parseJ_good` is the induction on fuel.
-/
namespace Avro

def optMem (d : Option Bytes) (syms : List Bytes) : Bool :=
  match d with
  | some x => syms.contains x
  | none => true

mutual
def wfP : PSchema → Bool
  | .array s _ => wfP s
  | .map s _ => wfP s
  | .union bs => (unionNew bs [] []).isSome && wfPList bs
  | .record n _ _ fields _ => n.ok && fieldLookupOk fields [] && wfPFields fields
  | .enum n _ _ syms d _ =>
    n.ok && syms.all isIdent && decide syms.Nodup && optMem d syms
  | .fixed f => f.name.ok
  | .uuidFixed f => f.name.ok
  | .duration f => f.name.ok
  | .decimal p sc inner => decide (1 ≤ p) && decide (sc ≤ p) && (match inner with | some f => f.name.ok | none => true)
  | .ref n => n.ok
  | _ => true
def wfPList : List PSchema → Bool
  | [] => true
  | s :: rest => wfP s && wfPList rest
def wfPFields : List (FieldHdr × PSchema) → Bool
  | [] => true
  | (h, s) :: rest => isIdent h.name && wfP s && wfPFields rest
end

theorem wfP_record {n : PName} {al : Option (List PName)} {doc : Option Bytes} {fs : List (FieldHdr × PSchema)}
    {attrs : Attrs} :
    wfP (.record n al doc fs attrs) = true ↔ n.ok = true ∧ fieldLookupOk fs [] = true ∧ wfPFields fs = true := by
  simp only [wfP, Bool.and_eq_true, and_assoc]

theorem wfP_union {bs : List PSchema} : wfP (.union bs) = true ↔ unionNew bs [] [] = some () ∧ wfPList bs = true := by
  simp only [wfP, Bool.and_eq_true, Option.isSome_iff_exists]
  exact and_congr_left' ⟨fun ⟨_, h⟩ => h, fun h => ⟨_, h⟩⟩

theorem wfP_enum {n : PName} {al : Option (List PName)} {doc : Option Bytes} {syms : List Bytes} {d : Option Bytes}
    {attrs : Attrs} :
    wfP (.enum n al doc syms d attrs) = true ↔
      n.ok = true ∧ syms.all isIdent = true ∧ syms.Nodup ∧ optMem d syms = true := by
  simp only [wfP, Bool.and_eq_true, decide_eq_true_eq, and_assoc]

theorem wfPFields_iff {fs : List (FieldHdr × PSchema)} :
    wfPFields fs = true ↔ ∀ o ∈ fs, isIdent o.1.name = true ∧ wfP o.2 = true := by
  induction fs with
  | nil => simp [wfPFields]
  | cons o rest ih => obtain ⟨h, s⟩ := o; simp [wfPFields, ih, and_assoc]

theorem wfPList_iff {ss : List PSchema} : wfPList ss = true ↔ ∀ s ∈ ss, wfP s = true := by
  induction ss with
  | nil => simp [wfPList]
  | cons s rest ih => simp [wfPList, ih]

/-- `fieldLookupOk` on the names and aliases alone -/
def lookupOkNames : List (Bytes × List Bytes) → List Bytes → Bool
  | [], _ => true
  | (n, al) :: rest, keys => if keys.contains n then false else lookupOkNames rest (al ++ n :: keys)

theorem fieldLookupOk_names : ∀ (fs : List (FieldHdr × PSchema)) (keys : List Bytes),
    fieldLookupOk fs keys = lookupOkNames (fs.map (fun f => (f.1.name, f.1.aliases))) keys := by
  intro fs
  induction fs with
  | nil => intro keys; rfl
  | cons f rest ih =>
    intro keys
    obtain ⟨h, s⟩ := f
    simp only [fieldLookupOk, List.map_cons, lookupOkNames, ih]

/-- the check passes exactly when no name is a key that is already there, an earlier name or an
earlier field's alias -/
theorem lookupOkNames_iff {l : List (Bytes × List Bytes)} {keys : List Bytes} :
    lookupOkNames l keys = true ↔ (∀ p ∈ l, p.1 ∉ keys) ∧ l.Pairwise fun a b => b.1 ≠ a.1 ∧ b.1 ∉ a.2 := by
  fun_induction lookupOkNames l keys
  · simp
  next n al rest keys hc => exact ⟨nofun, fun h => absurd (List.contains_iff_mem.mp hc) (h.1 _ (.head _))⟩
  next n al rest keys hc ih =>
    have hn : n ∉ keys := fun hm => hc (List.contains_iff_mem.mpr hm)
    have hk : ∀ x, x ∉ al ++ n :: keys ↔ x ∉ al ∧ x ≠ n ∧ x ∉ keys := fun x => by
      rw [List.mem_append, List.mem_cons, not_or, not_or]
    simp only [ih, hk, List.forall_mem_cons, List.pairwise_cons]
    exact ⟨fun ⟨h1, h2⟩ => ⟨⟨hn, fun q hq => (h1 q hq).2.2⟩, fun q hq => ⟨(h1 q hq).2.1, (h1 q hq).1⟩, h2⟩,
      fun ⟨⟨_, h1⟩, h2, h3⟩ => ⟨fun q hq => ⟨(h2 q hq).2, (h2 q hq).1, h1 q hq⟩, h3⟩⟩

theorem fieldLookupOk_nodup {fs : List (FieldHdr × PSchema)} {keys : List Bytes} (h : fieldLookupOk fs keys = true) :
    (fs.map (fun f => f.1.name)).Nodup := by
  rw [fieldLookupOk_names, lookupOkNames_iff, List.pairwise_map] at h
  exact List.pairwise_map.mpr (h.2.imp fun hab => Ne.symm hab.1)

def tblAll (t : List (PName × PSchema)) : Prop := ∀ kv ∈ t, wfP kv.2 = true

def stOk (st : PSt) : Prop := tblAll st.parsed ∧ tblAll st.resolving

/-- whatever `o` returns satisfies `P`.  The model writes the matches of its option-valued functions out, so
there is no bind to reason about; `fun_cases f …` (`fun_induction f …` for a recursive `f`) on a goal
`Yields (f …) P` gives one goal per leaf of the definition of `f`, with the conditions on the way to it as
hypotheses: `<;> try exact .none` closes the leaves where `f` fails, the others follow in the order of the
definition. -/
def Yields {α : Type} (o : Option α) (P : α → Prop) : Prop := ∀ a, o = some a → P a

theorem Yields.none {α : Type} {P : α → Prop} : Yields none P := nofun

theorem Yields.some {α : Type} {P : α → Prop} {a : α} (h : P a) : Yields (some a) P :=
  fun _ e => by cases e; exact h

theorem Yields.imp {α : Type} {P Q : α → Prop} {o : Option α} (h : Yields o P) (hPQ : ∀ a, P a → Q a) : Yields o Q :=
  fun a e => hPQ a (h a e)

/-- what every step of the parser returns: nothing, or a well-formed result and a state whose tables
still hold well-formed schemas -/
def Keeps {α : Type} (wf : α → Bool) (o : Option (α × PSt)) : Prop :=
  Yields o fun r => wf r.1 = true ∧ stOk r.2

theorem Keeps.none {α : Type} {wf : α → Bool} : Keeps wf none := Yields.none

theorem Keeps.some {α : Type} {wf : α → Bool} {a : α} {st : PSt} (ha : wf a = true) (hst : stOk st) :
    Keeps wf (some (a, st)) :=
  Yields.some ⟨ha, hst⟩

/-- the induction hypothesis about the recursive call -/
def Good (parse : ParseFn) : Prop := ∀ st j ns, stOk st → Keeps wfP (parse st j ns)

theorem tblGet_all {t : List (PName × PSchema)} (h : tblAll t) {k : PName} {s : PSchema}
    (hg : tblGet t k = some s) : wfP s = true := by
  obtain ⟨kv, hf, rfl⟩ := Option.map_eq_some_iff.mp hg
  exact h kv (List.mem_of_find?_eq_some hf)

theorem tblRemove_all {t : List (PName × PSchema)} (h : tblAll t) (k : PName) : tblAll (tblRemove t k) :=
  fun kv hkv => h kv (List.mem_filter.mp hkv).1

theorem tblInsert_all {t : List (PName × PSchema)} (h : tblAll t) (k : PName) (s : PSchema) (hs : wfP s = true) :
    tblAll (tblInsert t k s) := by
  unfold tblInsert tblAll
  split
  · refine List.forall_mem_map.mpr fun kv hkv => ?_
    split
    · exact hs
    · exact h kv hkv
  · exact List.forall_mem_append.mpr ⟨h, List.forall_mem_singleton.mpr hs⟩

theorem make_ok {s : Bytes} {e : Option Bytes} {n : PName} (h : PName.make s e = some n) : n.ok = true := by
  revert h
  fun_cases PName.make s e <;> intro h <;> cases h
  next hm => exact hm

theorem parseName_ok {kvs : List (Bytes × Json)} {e : Option Bytes} {n : PName} (h : parseName kvs e = some n) :
    n.ok = true := by
  unfold parseName at h
  split at h
  · cases h
  · exact make_ok h

theorem registerParsed_stOk {st : PSt} (h : stOk st) (name : PName) (schema : PSchema) (hs : wfP schema = true)
    (aliases : Option (List PName)) : stOk (registerParsed st name schema aliases) := by
  unfold registerParsed
  exact List.foldlRecOn (motive := fun pr : List (PName × PSchema) × List (PName × PSchema) => tblAll pr.1 ∧ tblAll pr.2)
    _ _ ⟨tblInsert_all h.1 _ _ hs, tblRemove_all h.2 _⟩
    fun pr hpr a _ => ⟨tblInsert_all hpr.1 _ _ hs, tblRemove_all hpr.2 _⟩

theorem registerResolving_stOk {st : PSt} (h : stOk st) (name : PName) (hn : name.ok = true)
    (aliases : Option (List PName)) : stOk (registerResolving st name aliases) := by
  have hr : wfP (.ref name) = true := hn
  exact ⟨h.1, List.foldlRecOn _ _ (tblInsert_all h.2 _ _ hr) fun r hr' a _ => tblInsert_all hr' _ _ hr⟩

theorem alreadySeen_ok {st : PSt} (h : stOk st) {kvs : List (Bytes × Json)} {e : Option Bytes} {s : PSchema}
    (hs : alreadySeen st kvs e = some s) : wfP s = true := by
  revert hs
  fun_cases alreadySeen st kvs e <;> intro hs <;> try cases hs
  next n _ =>
    cases hr : tblGet st.resolving n with
    | some r => rw [hr] at hs; cases hs; exact tblGet_all h.2 hr
    | none => rw [hr] at hs; exact tblGet_all h.1 hs

theorem schemaRefOf_wf {s : PSchema} (h : wfP s = true) : wfP (schemaRefOf s) = true := by
  unfold schemaRefOf
  split
  · exact (wfP_record.mp h).1
  · exact (wfP_enum.mp h).1
  · exact h
  · exact h

macro "inj" h:ident : tactic =>
  `(tactic| (simp only [Option.some.injEq, Prod.mk.injEq] at $h:ident; rcases $h:ident with ⟨h1, h2⟩; subst h1; subst h2))

macro "inj" h:ident : tactic =>
  `(tactic| (simp only [Option.some.injEq, Prod.mk.injEq] at $h:ident; rcases $h:ident with ⟨h1, h2⟩; subst h1; subst h2))

theorem primOf_wf {t : Bytes} {p : PSchema} (h : primOf t = some p) : wfP p = true := by
  obtain ⟨e, hf, rfl⟩ := Option.map_eq_some_iff.mp h
  exact (by decide : ∀ e ∈ primTable, wfP e.2 = true) e (List.mem_of_find?_eq_some hf)

variable {parse : ParseFn} {dflt : DfltFn} {st : PSt} {kvs : List (Bytes × Json)} {ns : Option Bytes}

theorem parseKnown_good (hp : Good parse) (hst : stOk st) {t : Bytes} : Keeps wfP (parseKnown parse st t ns) := by
  fun_cases parseKnown parse st t ns <;> try exact .none
  next p hp' => exact .some (primOf_wf hp') hst
  next fq hfq _ => exact .some (make_ok hfq : wfP (.ref fq) = true) hst
  next r hr => exact .some (tblGet_all hst.2 hr) hst
  next fq _ _ _ _ _ _ parsed st2 hparse _ _ =>
    obtain ⟨hw, hst2⟩ := hp { st with inputs := tblRemove st.inputs fq } _ _ hst _ hparse
    exact .some (schemaRefOf_wf hw) ⟨tblInsert_all hst2.1 _ _ hw, hst2.2⟩

theorem seen_wf (hst : stOk st) {c : Bool} {seen : PSchema}
    (h : (if c = true then alreadySeen st kvs ns else none) = some seen) : wfP seen = true := by
  split at h
  · exact alreadySeen_ok hst h
  · cases h

theorem parseFixed_good (hst : stOk st) : Keeps wfP (parseFixed st kvs ns) := by
  fun_cases parseFixed st kvs ns <;> try exact .none
  next seen hseen => exact .some (seen_wf hst hseen) hst
  next name hname _ _ _ =>
    have hn := parseName_ok hname
    exact .some hn (registerParsed_stOk hst _ _ (by exact hn) _)

theorem parseSeq_good {f : PSt → Json → Option (PSchema × PSt)} (hf : ∀ st j, stOk st → Keeps wfP (f st j))
    (js : List Json) (st : PSt) (hst : stOk st) : Keeps wfPList (parseSeq f st js) := by
  fun_induction parseSeq f st js <;> try exact .none
  next => exact .some rfl hst
  next s st1 h1 ss st2 h2 ih =>
    obtain ⟨hw, hst1⟩ := hf _ _ hst _ h1
    obtain ⟨hws, hst2⟩ := ih hst1 _ h2
    exact .some (Bool.and_eq_true_iff.mpr ⟨hw, hws⟩) hst2

theorem parseFields_good {parseTy : PSt → Json → Option (PSchema × PSt)}
    (hf : ∀ st j, stOk st → Keeps wfP (parseTy st j)) (js : List Json) (st : PSt) (hst : stOk st) :
    Keeps wfPFields (parseFieldsWith parseTy dflt st js) := by
  fun_induction parseFieldsWith parseTy dflt st js <;> try exact .none
  next => exact .some rfl hst
  next hid _ _ schema st1 hty _ _ _ _ fs st2 hrest ih =>
    obtain ⟨hw, hst1⟩ := hf _ _ hst _ hty
    obtain ⟨hws, hst2⟩ := ih hst1 _ hrest
    exact .some (by simpa only [wfPFields, hw, hws, Bool.and_true, Bool.not_eq_true', Bool.not_eq_false] using hid) hst2
  next ih => exact ih hst

theorem parseRecord_good (hp : Good parse) (hst : stOk st) : Keeps wfP (parseRecord parse dflt st kvs ns) := by
  fun_cases parseRecord parse dflt st kvs ns <;> try exact .none
  next seen hseen => exact .some (seen_wf hst hseen) hst
  next name hname aliases _ _ _ fields st2 hfields hl _ =>
    have hn := parseName_ok hname
    obtain ⟨hwf, hst2⟩ := parseFields_good (fun st j => hp st j name.ns) _ _ (registerResolving_stOk hst name hn aliases)
      _ hfields
    have hw := wfP_record (al := aliases) (doc := objStr kvs b!"doc") (attrs := customAttrs kvs [b!"fields"]) |>.mpr
      ⟨hn, by simpa only [Bool.not_eq_true', Bool.not_eq_false] using hl, hwf⟩
    exact .some hw (registerParsed_stOk hst2 _ _ hw _)

theorem enumDefault_mem {symbols : List Bytes} {d : Option Bytes} (h : enumDefault kvs symbols = some d) :
    optMem d symbols = true := by
  revert h
  fun_cases enumDefault kvs symbols <;> intro h <;> cases h
  next => rfl
  next hc => exact hc

theorem parseEnum_good (hst : stOk st) : Keeps wfP (parseEnum st kvs ns) := by
  fun_cases parseEnum st kvs ns <;> try exact .none
  next seen hseen => exact .some (seen_wf hst hseen) hst
  next name hname _ _ _ _ symbols _ hsy default hdef _ =>
    simp only [Bool.or_eq_true, Bool.not_eq_true', not_or, Bool.not_eq_false, decide_eq_false_iff_not,
      Decidable.not_not] at hsy
    have hw : ∀ al doc attrs, wfP (.enum name al doc symbols default attrs) = true := fun _ _ _ =>
      wfP_enum.mpr ⟨parseName_ok hname, hsy.1, hsy.2, enumDefault_mem hdef⟩
    exact .some (hw _ _ _) (registerParsed_stOk hst _ _ (hw _ _ _) _)

theorem precisionScale_ok {p sc : Nat} (h : precisionScale kvs = some (p, sc)) : 1 ≤ p ∧ sc ≤ p := by
  revert h
  fun_cases precisionScale kvs <;> intro h <;> cases h
  next => omega

/-- by the arms of `applyLogical`: all but four return `inner` or a logical type that is well formed
outright; a decimal adds the bounds on precision and scale, and the logical types over a fixed keep
its name -/
theorem applyLogical_wf (tag : LogicalTag) (kvs : List (Bytes × Json)) {inner : PSchema} (h : wfP inner = true) :
    wfP (applyLogical tag kvs inner) = true := by
  unfold applyLogical
  split <;> try rfl
  · split
    next hh => simp [wfP, precisionScale_ok hh]
    · exact h
  · split
    next hh => simpa [wfP, precisionScale_ok hh] using h
    · exact h
  · split <;> exact h
  · split <;> exact h
  · exact h

theorem parseArray_good (hp : Good parse) (hst : stOk st) : Keeps wfP (parseArray parse st kvs ns) := by
  fun_cases parseArray parse st kvs ns <;> try exact .none
  next it st1 hit =>
    obtain ⟨hw, hs⟩ := hp _ _ _ hst _ hit
    exact .some hw hs

theorem parseMap_good (hp : Good parse) (hst : stOk st) : Keeps wfP (parseMap parse st kvs ns) := by
  fun_cases parseMap parse st kvs ns <;> try exact .none
  next it st1 hit =>
    obtain ⟨hw, hs⟩ := hp _ _ _ hst _ hit
    exact .some hw hs

theorem parseUnion_good (hp : Good parse) (hst : stOk st) {items : List Json} :
    Keeps wfP (parseUnion parse st items ns) := by
  fun_cases parseUnion parse st items ns <;> try exact .none
  next schemas st1 hseq _ hu =>
    obtain ⟨hw, hs⟩ := parseSeq_good (fun st j => hp st j ns) items st hst _ hseq
    exact .some (wfP_union.mpr ⟨hu, hw⟩) hs

theorem parseComplexKind_good (hp : Good parse) (tag : ComplexTag) (hst : stOk st) :
    Keeps wfP (parseComplexKind parse dflt tag st kvs ns) := by
  cases tag
  · exact parseRecord_good hp hst
  · exact parseEnum_good hst
  · exact parseArray_good hp hst
  · exact parseMap_good hp hst
  · exact parseFixed_good hst

theorem parseNative_good (hp : Good parse) (hst : stOk st) : Keeps wfP (parseNative parse dflt st kvs ns) := by
  fun_cases parseNative parse dflt st kvs ns
  · exact parseComplexKind_good hp _ hst
  · exact hp _ _ _ hst
  · exact hp _ _ _ hst
  · exact .none

theorem parseByType_good (hp : Good parse) (hst : stOk st) : Keeps wfP (parseByType parse dflt st kvs ns) := by
  fun_cases parseByType parse dflt st kvs ns
  · exact parseComplexKind_good hp _ hst
  · exact parseKnown_good hp hst
  · exact hp _ _ _ hst
  · exact hp _ _ _ hst
  · exact .none

theorem parseComplex_good (hp : Good parse) (hst : stOk st) : Keeps wfP (parseComplex parse dflt st kvs ns) := by
  fun_cases parseComplex parse dflt st kvs ns <;> try exact .none
  next inner st1 hn =>
    obtain ⟨hw, hs⟩ := parseNative_good hp hst _ hn
    exact .some (applyLogical_wf _ kvs hw) hs
  · exact parseByType_good hp hst
  · exact parseByType_good hp hst

/-- **every schema the parser accepts is well formed**, for every JSON value, every recursion budget
and every parser state whose tables hold well-formed schemas (in particular the empty state) -/
theorem parseJ_good (dflt : DfltFn) (fuel : Nat) : Good (parseJ dflt fuel) := by
  induction fuel with
  | zero => exact fun _ _ _ _ => .none
  | succ fuel ih =>
    intro st j ns hst
    unfold parseJ
    split
    · exact parseKnown_good ih hst
    · exact parseUnion_good ih hst
    · exact parseComplex_good ih hst
    · exact .none

end Avro
