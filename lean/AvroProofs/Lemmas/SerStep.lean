import AvroModel.SerdeSer
/-!
`serS_ok` reads off a successful step of the schema-aware serializer `serS` what it did (`SerStep`, one line per shape of
serde value).  It is the only place where `serS` is unfolded: the count, the record order and the specification
theorems all start from it.
-/
namespace Avro

theorem indexOfSym_some {syms : List Bytes} {v : Bytes} {i : Nat} (h : indexOfSym syms v = some i) :
    syms[i]? = some v := by
  simp only [indexOfSym] at h
  split at h <;> cases h
  rename_i hlt
  rw [List.getElem?_eq_getElem hlt]
  exact congrArg some (of_decide_eq_true (List.findIdx_getElem (w := hlt)))

/-- what a successful step of `serS` did, read off its result `r`: `x` against the dereferenced schema `s`, with `ser`
serializing the parts.  Necessary conditions only (`serS_ok`): a check of the model that no proof needs is left out. -/
def SerStep (tbs : Option Nat) (env : Names) (ser : Schema → SerdeVal → SerOut) (s : Schema) (r : Bytes × Nat) :
    SerdeVal → Prop
  | .bool b => s = .boolean ∧ r = ([if b then 1 else 0], 1)
  | .i8 n | .i16 n | .i32 n | .u8 n | .u16 n => s.isIntLikeS = true ∧ r = varint n
  | .i64 n | .u32 n => s.isLongLikeS = true ∧ r = varint n
  | .u64 _ => False
  | .f32 b => s = .float ∧ r = (leBytes 4 b.toNat, 4)
  | .f64 b => s = .double ∧ r = (leBytes 8 b.toNat, 8)
  | .char u => s = .string ∧ r = withLen u
  | .str u => (s = .string ∨ s = .uuidString) ∧ r = withLen u
  | .bytes b =>
    match s with
    | .bytes | .bigDecimal | .decimal _ _ .bytes | .uuidBytes => r = withLen b
    | .fixed _ size | .decimal _ _ (.fixed _ size) | .uuidFixed _ size | .duration _ size =>
      size = b.length ∧ r = (b, b.length)
    | _ => False
  | .none => ∃ bs ni, s = .union bs ∧ optionNullIndex bs = some ni ∧ r = varint ni
  | .some v => ∃ bs ni b vb vn, s = .union bs ∧ optionNullIndex bs = some ni ∧ bs[(ni + 1) % 2]? = some b ∧
      ser b v = .ok (vb, vn) ∧ r = ((varint ((ni + 1) % 2 : Nat)).1 ++ vb, (varint ((ni + 1) % 2 : Nat)).2 + vn)
  | .unit => s = .null ∧ r = ([], 0)
  | .unitStruct name => ∃ rn, s = .record rn [] ∧ unqual rn = name ∧ r = ([], 0)
  | .unitVariant _ _ variant => ∃ en syms d, ∃ i : Nat, s = .enum en syms d ∧ syms[i]? = some variant ∧ r = varint i
  | .newtypeStruct name v => ∃ rn m fs, s = .record rn [(m, fs)] ∧ unqual rn = name ∧ ser fs v = .ok r
  | .seq len items => ∃ inner, s = .array inner ∧
      blockSer tbs (ser inner) false (fun _ => .ok ([], 0)) len (items.map (fun i => (SerdeVal.unit, i))) = .ok r
  | .tuple items => (s = .null ∧ items = [] ∧ r = ([], 0)) ∨ (∃ i, items = [i] ∧ ser s i = .ok r) ∨
      ∃ rn fields, s = .record rn fields ∧ tupleFields ser fields items [] 0 = .ok r
  | .tupleStruct name items => ∃ rn fields, s = .record rn fields ∧ unqual rn = name ∧
      tupleFields ser fields items [] 0 = .ok r
  | .map len entries => ∃ inner, s = .map inner ∧ blockSer tbs (ser inner) true (ser .string) len entries = .ok r
  | .struct _ given => ∃ rn rfields st st', s = .record rn rfields ∧ recordFields env ser rfields given {} = .ok st ∧
      recordEnd env ser rfields (rfields.length + 1) st = .ok st' ∧ r = (st'.out, st'.cnt)

theorem unionOr_ne_ok {s : Schema} {e : Err} {r : Bytes × Nat} :
    (match s with | .union _ => (Except.error .other : SerOut) | _ => .error e) ≠ .ok r := by
  split <;> nofun

theorem sized_ok {size : Nat} {b : Bytes} {r : Bytes × Nat}
    (h : (if size != b.length then (.error .mismatch : SerOut) else .ok (b, b.length)) = .ok r) :
    size = b.length ∧ r = (b, b.length) := by
  split at h <;> cases h
  rename_i hne
  exact ⟨by simpa using hne, rfl⟩

theorem serS_ok {tbs : Option Nat} {env : Names} {fuel : Nat} {s0 : Schema} {x : SerdeVal} {r : Bytes × Nat}
    (h : serS tbs env (fuel + 1) s0 x = .ok r) :
    ∃ s, derefS env s0 = some s ∧ SerStep tbs env (serS tbs env fuel) s r x := by
  unfold serS at h
  split at h
  · cases h
  · rename_i s hd
    refine ⟨s, hd, ?_⟩
    -- head reduction of `match x with …` only: `simp only at h` walks all the arms again in every case
    cases x <;> with_reducible conv at h => lhs; whnf
    case bool | f32 | f64 | char | unit =>
      split at h
      · cases h; exact ⟨rfl, rfl⟩
      · exact absurd h unionOr_ne_ok
    case i8 | i16 | i32 | u8 | u16 | i64 | u32 =>
      split at h
      · cases h; exact ⟨‹_›, rfl⟩
      · exact absurd h unionOr_ne_ok
    case u64 => cases h
    case str =>
      split at h
      · cases h; exact ⟨.inl rfl, rfl⟩
      · cases h; exact ⟨.inr rfl, rfl⟩
      · exact absurd h unionOr_ne_ok
    case bytes =>
      split at h
      iterate 4 (cases h; rfl)
      iterate 4 exact sized_ok h
      exact absurd h unionOr_ne_ok
    case none =>
      split at h
      · split at h <;> cases h
        exact ⟨_, _, rfl, ‹_›, rfl⟩
      · cases h
    case some =>
      simp only at h
      split at h
      · split at h
        · split at h
          · split at h <;> cases h
            exact ⟨_, _, _, _, _, rfl, ‹_›, ‹_›, ‹_›, rfl⟩
          · cases h
        · cases h
      · cases h
    case unitStruct =>
      split at h
      · split at h <;> cases h
        exact ⟨_, rfl, eq_of_beq ‹_›, rfl⟩
      · exact absurd h unionOr_ne_ok
    case unitVariant =>
      split at h
      · split at h
        · cases h; exact ⟨_, _, _, _, rfl, eq_of_beq ‹_›, rfl⟩
        · split at h <;> cases h
          exact ⟨_, _, _, _, rfl, indexOfSym_some ‹_›, rfl⟩
      · exact absurd h unionOr_ne_ok
    case newtypeStruct =>
      split at h
      · split at h
        · exact ⟨_, _, _, rfl, eq_of_beq ‹_›, h⟩
        · cases h
      · exact absurd h unionOr_ne_ok
    case seq | map =>
      split at h
      · exact ⟨_, rfl, h⟩
      · exact absurd h unionOr_ne_ok
    case tupleStruct =>
      split at h
      · split at h
        · exact ⟨_, _, rfl, eq_of_beq (Bool.and_eq_true_iff.mp ‹_›).2, h⟩
        · cases h
      · exact absurd h unionOr_ne_ok
    case struct =>
      split at h
      · split at h
        · cases h
        · split at h <;> cases h
          exact ⟨_, _, _, _, rfl, ‹_›, ‹_›, rfl⟩
      · exact absurd h unionOr_ne_ok
    case tuple items =>
      split at h
      · cases h
      · split at h
        · split at h <;> cases h
          exact .inl ⟨rfl, List.eq_nil_of_length_eq_zero (eq_of_beq ‹_›), rfl⟩
        · split at h
          · split at h
            · exact .inr (.inl ⟨_, rfl, h⟩)
            · cases h
          · split at h
            · split at h
              · exact .inr (.inr ⟨_, _, rfl, h⟩)
              · cases h
            · cases h

end Avro
