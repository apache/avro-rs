import AvroModel.Varint
/-!
Zig-zag bit by bit (kernel-only: no bv_decide), and varints through base-128 digit strings: every digit string of at most
ten bytes is read to its value (`decodeVar_digits`), and what `encode_variable` writes is the shortest digit string of its
number (`encodeVar_digits`); the round trip and the lengths are corollaries.  What a successful read did
(`decodeVarAux_ok`) and that a cut varint is an end-of-input error (`decodeVarAux_cut`) need no digits.
-/
namespace Avro
theorem zig_bit0 (n : BitVec 64) : (zigBV n)[0] = n.msb := by
  unfold zigBV
  simp [BitVec.getElem_sshiftRight, BitVec.msb_eq_getLsbD_last]

theorem zig_bit_succ (n : BitVec 64) (i : Nat) (h : i + 1 < 64) :
    (zigBV n)[i+1] = (n[i] ^^ n.msb) := by
  unfold zigBV
  simp
  rw [BitVec.getElem_sshiftRight]
  have : ¬ (63 + (i + 1) < 64) := by omega
  simp [this]

/-- zig-zag without the arithmetic shift: doubled, and complemented when the sign bit is set -/
theorem zigBV_eq (x : BitVec 64) : zigBV x = if x.msb then ~~~(x <<< 1) else x <<< 1 := by
  ext i hi
  cases i with
  | zero => rw [zig_bit0]; cases x.msb <;> simp
  | succ k => rw [zig_bit_succ x k hi]; cases x.msb <;> simp

theorem zagBV_eq (z : BitVec 64) : zagBV z = if z[0] then ~~~(z >>> 1) else z >>> 1 := by
  unfold zagBV
  rw [BitVec.and_one_eq_setWidth_ofBool_getLsbD, BitVec.getLsbD_eq_getElem (by omega : 0 < 64)]
  cases z[0] <;> rfl

theorem zag_bit (z : BitVec 64) (i : Nat) (h : i + 1 < 64) :
    (zagBV z)[i] = (z[i+1] ^^ z[0]) := by
  rw [zagBV_eq]
  cases z[0] <;> simp [Nat.add_comm 1 i, h]

theorem zag_msb (z : BitVec 64) : (zagBV z).msb = z[0] := by
  rw [zagBV_eq]
  cases z[0] <;> simp [BitVec.msb_eq_getLsbD_last]

theorem zag_zig_bv (n : BitVec 64) : zagBV (zigBV n) = n := by
  ext i hi
  by_cases h : i + 1 < 64
  · rw [zag_bit _ i h, zig_bit_succ n i h, zig_bit0]
    cases n[i] <;> cases n.msb <;> rfl
  · obtain rfl : i = 63 := by omega
    have := zag_msb (zigBV n)
    rw [zig_bit0, BitVec.msb_eq_getLsbD_last, BitVec.msb_eq_getLsbD_last] at this
    simpa [BitVec.getLsbD_eq_getElem hi] using this

theorem and_7f (z : Nat) : z &&& 0x7F = z % 128 := by
  have := Nat.and_two_pow_sub_one_eq_mod z 7
  simpa using this

theorem or_80 (d : Nat) (h : d < 128) : 0x80 ||| d = 128 + d := by
  have := Nat.shiftLeft_add_eq_or_of_lt (a := 1) (i := 7) (b := d) (by simpa using h)
  simp at this
  omega

theorem or_shift (acc d j : Nat) (h : acc < 128^j) : acc ||| (d <<< (j*7)) = acc + d * 128^j := by
  rw [show (128:Nat) = 2^7 from rfl, ← Nat.pow_mul] at h ⊢
  have := Nat.shiftLeft_add_eq_or_of_lt (a := d) (i := 7*j) (b := acc) h
  rw [Nat.or_comm, Nat.mul_comm j 7, ← this, Nat.shiftLeft_eq]
  omega

/-- one iteration of `decode_variable`, as arithmetic: the byte's low seven bits are the digit at position `j`, its high
bit says whether another byte follows -/
theorem decodeVarAux_cons (fuel : Nat) {j acc : Nat} (b : UInt8) (rest : Bytes) (hacc : acc < 128^j) :
    decodeVarAux (fuel+1) j acc (b :: rest) =
      if b.toNat < 128 then .ok ((acc + b.toNat * 128^j) % 2^64, rest)
      else decodeVarAux fuel (j+1) ((acc + (b.toNat - 128) * 128^j) % 2^64) rest := by
  have hb := b.toNat_lt
  have hsh : (b.toNat >>> 7 = 0) ↔ b.toNat < 128 := by rw [Nat.shiftRight_eq_div_pow]; omega
  simp only [decodeVarAux, and_7f, or_shift acc _ j hacc, hsh]
  split
  · rw [Nat.mod_eq_of_lt (show b.toNat < 128 from ‹_›)]
  · rw [show b.toNat % 128 = b.toNat - 128 by omega]

theorem acc_digit_lt {acc d j : Nat} (hacc : acc < 128^j) (hd : d < 128) : acc + d * 128^j < 128^(j+1) := by
  have : (d + 1) * 128^j ≤ 128 * 128^j := Nat.mul_le_mul_right _ hd
  rw [Nat.add_mul] at this
  rw [Nat.pow_succ]; omega

/-- the number a little-endian base-128 digit string denotes -/
def varintVal : List Nat → Nat
  | [] => 0
  | d :: ds => d + 128 * varintVal ds

/-- a digit string on the wire: continuation bit on every byte but the last -/
def varintBytes (ds : List Nat) (last : Nat) : Bytes :=
  ds.map (fun d => UInt8.ofNat (128 + d)) ++ [UInt8.ofNat last]

/-- a digit string within the byte budget is read to its value, from which `<<` drops what does not fit 64 bits -/
theorem decodeVarAux_digits (last : Nat) (hlast : last < 128) (rest : Bytes) :
    ∀ (ds : List Nat) (fuel j acc : Nat), (∀ d ∈ ds, d < 128) → ds.length + 1 ≤ fuel → acc < 128^j →
      decodeVarAux fuel j acc (varintBytes ds last ++ rest) = .ok ((acc + 128^j * varintVal (ds ++ [last])) % 2^64, rest)
  | [], fuel+1, j, acc, _, _, hacc => by
    rw [show varintBytes [] last ++ rest = UInt8.ofNat last :: rest from rfl, decodeVarAux_cons fuel _ _ hacc,
      UInt8.toNat_ofNat_of_lt' (show last < 256 by omega), if_pos hlast, Nat.mul_comm]
    simp only [List.nil_append, varintVal, Nat.mul_zero, Nat.add_zero]
  | d :: ds, fuel+1, j, acc, hd, hf, hacc => by
    have hd128 : d < 128 := hd d (by simp)
    have hsum : acc + d * 128^j + 128^(j+1) * varintVal (ds ++ [last])
        = acc + 128^j * varintVal (d :: ds ++ [last]) := by
      simp only [List.cons_append, varintVal]
      rw [Nat.pow_succ, Nat.mul_add, Nat.mul_comm (128^j) d, Nat.mul_assoc, Nat.add_assoc]
    rw [show varintBytes (d :: ds) last ++ rest = UInt8.ofNat (128 + d) :: (varintBytes ds last ++ rest) from rfl,
      decodeVarAux_cons fuel _ _ hacc, UInt8.toNat_ofNat_of_lt' (show 128 + d < 256 by omega), if_neg (by omega), Nat.add_sub_cancel_left,
      decodeVarAux_digits last hlast rest ds fuel (j+1) _ (fun x hx => hd x (by simp [hx])) (by simp at hf; omega)
        (Nat.lt_of_le_of_lt (Nat.mod_le _ _) (acc_digit_lt hacc hd128)), Nat.mod_add_mod, hsum]

/-- **every digit string is read**: up to ten bytes, value below 2^64, canonical or zero-padded -/
theorem decodeVar_digits (ds : List Nat) (last : Nat) (hd : ∀ d ∈ ds, d < 128) (hlast : last < 128)
    (hlen : ds.length + 1 ≤ 10) (hv : varintVal (ds ++ [last]) < 2^64) (rest : Bytes) :
    decodeVar (varintBytes ds last ++ rest) = .ok (varintVal (ds ++ [last]), rest) := by
  unfold decodeVar
  have := decodeVarAux_digits last hlast rest ds 10 0 0 hd hlen (by simp)
  simpa [Nat.mod_eq_of_lt hv] using this

theorem varintVal_pad (ds : List Nat) (k : Nat) : varintVal (ds ++ List.replicate k 0) = varintVal ds := by
  induction ds with
  | nil =>
    induction k with
    | zero => rfl
    | succ k ih => simp only [List.nil_append] at ih; simp [List.replicate_succ, varintVal, ih]
  | cons d ds ih => simp only [List.cons_append, varintVal, ih]

theorem varintBytes_length (ds : List Nat) (last : Nat) : (varintBytes ds last).length = ds.length + 1 := by
  simp [varintBytes]

theorem varintVal_lt : ∀ {ds : List Nat}, (∀ d ∈ ds, d < 128) → varintVal ds < 128 ^ ds.length
  | [], _ => by simp [varintVal]
  | d :: ds, h => by
    have := varintVal_lt (ds := ds) fun x hx => h x (List.mem_cons_of_mem _ hx)
    have := h d (by simp)
    simp only [varintVal, List.length_cons, Nat.pow_succ]; omega

theorem le_varintVal : ∀ (ds : List Nat) {last : Nat}, 0 < last → 128 ^ ds.length ≤ varintVal (ds ++ [last])
  | [], _, h => by simp only [List.nil_append, varintVal, List.length_nil]; omega
  | d :: ds, _, h => by
    have := le_varintVal ds h
    simp only [List.cons_append, varintVal, List.length_cons, Nat.pow_succ]; omega

/-- one iteration of `encode_variable`, as arithmetic: the step of the specification's `Spec.varint` -/
theorem encodeVarAux_succ (fuel z : Nat) : encodeVarAux (fuel+1) z =
    if z < 128 then [UInt8.ofNat z] else UInt8.ofNat (128 + z % 128) :: encodeVarAux fuel (z / 128) := by
  have hd : z % 128 < 128 := Nat.mod_lt _ (by omega)
  rw [encodeVarAux, and_7f, or_80 _ hd, Nat.shiftRight_eq_div_pow]
  by_cases h : z < 128
  · rw [if_pos h, if_pos (by omega), Nat.mod_eq_of_lt h]
  · rw [if_neg h, if_neg (by omega)]

/-- what `encode_variable` writes is the shortest digit string of the number: its last digit is not zero unless it is
the only one -/
theorem encodeVarAux_digits (fuel : Nat) : ∀ z, 0 < fuel → z < 128^fuel →
    ∃ ds last, encodeVarAux fuel z = varintBytes ds last ∧ varintVal (ds ++ [last]) = z ∧
      (∀ d ∈ ds, d < 128) ∧ last < 128 ∧ ds.length + 1 ≤ fuel ∧ (ds = [] ∨ 0 < last) := by
  induction fuel with
  | zero => intro z h; omega
  | succ fuel ih =>
    intro z _ hz
    rw [encodeVarAux_succ]
    by_cases h : z < 128
    · exact ⟨[], z, if_pos h, by simp [varintVal], by simp, h, by simp, .inl rfl⟩
    · rw [Nat.pow_succ, Nat.mul_comm] at hz
      obtain ⟨ds, last, he, hv, hds, hl, hlen, hmin⟩ := ih (z / 128) (Nat.pos_of_ne_zero fun h0 => by subst h0; omega)
        (Nat.div_lt_of_lt_mul hz)
      have hd : z % 128 < 128 := Nat.mod_lt _ (by omega)
      refine ⟨z % 128 :: ds, last, by rw [if_neg h, he]; rfl, by simp only [List.cons_append, varintVal, hv]; omega,
        fun d hdm => (List.mem_cons.mp hdm).elim (· ▸ hd) (hds d), hl, by simp; omega, .inr ?_⟩
      -- the digits above the lowest denote `z / 128 ≥ 1`
      rcases hmin with rfl | h
      · simp only [List.nil_append, varintVal] at hv; omega
      · exact h

theorem encodeVar_digits {z : Nat} (hz : z < 2^64) :
    ∃ ds last, encodeVar z = varintBytes ds last ∧ varintVal (ds ++ [last]) = z ∧
      (∀ d ∈ ds, d < 128) ∧ last < 128 ∧ ds.length + 1 ≤ 10 ∧ (ds = [] ∨ 0 < last) :=
  encodeVarAux_digits 10 z (by omega) (Nat.lt_of_lt_of_le hz (by decide))

/-- the round trip of `encode_variable` / `decode_variable`: what is written is a digit string of at most ten bytes -/
theorem decodeVar_encodeVar (z : Nat) (hz : z < 2^64) (rest : Bytes) :
    decodeVar (encodeVar z ++ rest) = .ok (z, rest) := by
  obtain ⟨ds, last, he, hv, hds, hl, hlen, _⟩ := encodeVar_digits hz
  have := decodeVar_digits ds last hds hl hlen (by rw [hv]; exact hz) rest
  rwa [← he, hv] at this

theorem zig_lt (n : Int) : zig n < 2^64 := by
  unfold zig; exact BitVec.isLt _

theorem zag_zig (n : Int) (h1 : -2^63 ≤ n) (h2 : n < 2^63) : zag (zig n) = n := by
  unfold zag zig
  rw [BitVec.ofNat_toNat, BitVec.setWidth_eq, zag_zig_bv, BitVec.toInt_ofInt]
  apply Int.bmod_eq_of_le <;> omega

theorem decLong_encLong (n : Int) (h1 : -2^63 ≤ n) (h2 : n < 2^63) (rest : Bytes) :
    decLong (encLong n ++ rest) = .ok (n, rest) := by
  unfold decLong encLong
  rw [decodeVar_encodeVar _ (zig_lt n)]
  simp [zag_zig n h1 h2]

/-- `encode_int` is `encode_long` (`encInt := encLong`) -/
theorem decInt_encLong (n : Int) (h1 : -2^31 ≤ n) (h2 : n < 2^31) (rest : Bytes) :
    decInt (encLong n ++ rest) = .ok (n, rest) := by
  unfold decInt
  rw [decLong_encLong n (by omega) (by omega)]
  dsimp only
  rw [if_pos]
  constructor <;> omega

theorem encodeVar_ne_nil (z : Nat) : encodeVar z ≠ [] := by
  unfold encodeVar encodeVarAux; split <;> simp

theorem encLong_ne_nil (n : Int) : encLong n ≠ [] := encodeVar_ne_nil _

theorem zig_zag_bv (z : BitVec 64) : zigBV (zagBV z) = z := by
  ext i hi
  cases i with
  | zero => rw [zig_bit0, zag_msb]
  | succ k =>
    rw [zig_bit_succ _ k hi, zag_bit z k hi, zag_msb]
    cases z[k+1] <;> cases z[0] <;> rfl

theorem zig_zag (z : Nat) (h : z < 2^64) : zig (zag z) = z := by
  unfold zig zag
  rw [BitVec.ofInt_toInt, zig_zag_bv, BitVec.toNat_ofNat]
  exact Nat.mod_eq_of_lt h

/-- what a successful read did: it consumed `c`, between one byte and its budget, returns a number of `j + c.length`
digits, and does not depend on what follows `c` -/
theorem decodeVarAux_ok (fuel j acc : Nat) (bs : Bytes) (z : Nat) (r : Bytes)
    (h : decodeVarAux fuel j acc bs = .ok (z, r)) (hacc : acc < 128^j) :
    ∃ c, bs = c ++ r ∧ 1 ≤ c.length ∧ c.length ≤ fuel ∧ z < 128^(j + c.length) ∧ z < 2^64 ∧
      ∀ q, decodeVarAux fuel j acc (c ++ q) = .ok (z, q) := by
  induction fuel generalizing j acc bs with
  | zero => cases h
  | succ fuel ih =>
    obtain _ | ⟨b, rest⟩ := bs
    · cases h
    have hb := b.toNat_lt
    have hmod : ∀ d, d < 128 → (acc + d * 128^j) % 2^64 < 128^(j+1) := fun d hd =>
      Nat.lt_of_le_of_lt (Nat.mod_le _ _) (acc_digit_lt hacc hd)
    rw [decodeVarAux_cons fuel b rest hacc] at h
    split at h
    · cases h
      exact ⟨[b], rfl, by simp, by simp, hmod _ ‹_›, Nat.mod_lt _ (by omega), fun q => by
        rw [List.singleton_append, decodeVarAux_cons fuel b q hacc, if_pos ‹_›]⟩
    · obtain ⟨c, rfl, hc1, hc2, hz, hz64, hq⟩ := ih (j+1) _ rest h (hmod _ (by omega))
      exact ⟨b :: c, rfl, by simp, by simp; omega, by rwa [List.length_cons, Nat.add_comm c.length, ← Nat.add_assoc], hz64,
        fun q => by rw [List.cons_append, decodeVarAux_cons fuel b _ hacc, if_neg ‹_›]; exact hq q⟩

theorem decodeVar_ok {bs r : Bytes} {z : Nat} (h : decodeVar bs = .ok (z, r)) :
    ∃ c, bs = c ++ r ∧ 1 ≤ c.length ∧ c.length ≤ 10 ∧ z < 128^c.length ∧ z < 2^64 ∧ ∀ q, decodeVar (c ++ q) = .ok (z, q) := by
  simpa only [Nat.zero_add, decodeVar] using decodeVarAux_ok 10 0 0 bs z r h (by simp)

/-- the length of what `encode_variable` writes is the number of base-128 digits of the number -/
theorem encodeVar_length_le_iff {z k : Nat} (hz : z < 2^64) (hk : 1 ≤ k) : (encodeVar z).length ≤ k ↔ z < 128 ^ k := by
  obtain ⟨ds, last, he, hv, hds, hl, _, hmin⟩ := encodeVar_digits hz
  have hlt : z < 128 ^ (ds.length + 1) := by
    have := varintVal_lt (ds := ds ++ [last]) fun d hd => (List.mem_append.mp hd).elim (hds d) (by simp; omega)
    simpa [hv] using this
  rw [he, varintBytes_length]
  constructor
  · exact fun h => Nat.lt_of_lt_of_le hlt (Nat.pow_le_pow_right (by omega) h)
  · intro h
    rcases hmin with rfl | hpos
    · simpa using hk
    · have := le_varintVal ds hpos
      rw [hv] at this
      exact (Nat.pow_lt_pow_iff_right (by omega)).mp (Nat.lt_of_le_of_lt this h)

theorem encLong_length_le (n : Int) : (encLong n).length ≤ 10 :=
  (encodeVar_length_le_iff (zig_lt n) (by omega)).mpr (Nat.lt_of_lt_of_le (zig_lt n) (by decide))

theorem encodeVar_length_mono (a b : Nat) (hab : a ≤ b) (hb : b < 2^64) :
    (encodeVar a).length ≤ (encodeVar b).length := by
  have hpos : 1 ≤ (encodeVar b).length := List.length_pos_iff.mpr (encodeVar_ne_nil b)
  have := (encodeVar_length_le_iff hb hpos).mp (Nat.le_refl _)
  exact (encodeVar_length_le_iff (by omega) hpos).mpr (by omega)

theorem zig_nonneg (n : Nat) (h : n < 2^63) : zig (n : Int) = 2 * n := by
  unfold zig
  rw [zigBV_eq, BitVec.msb_eq_decide, BitVec.ofInt_natCast, BitVec.toNat_ofNat, decide_eq_false (by omega),
    if_neg Bool.false_ne_true, BitVec.toNat_shiftLeft, Nat.shiftLeft_eq, BitVec.toNat_ofNat]
  omega

theorem zig_neg (m : Nat) (h : m < 2^63) : zig (-((m : Int) + 1)) = 2 * m + 1 := by
  unfold zig
  rw [← Int.negSucc_eq, zigBV_eq, BitVec.msb_eq_decide, BitVec.ofInt_negSucc_eq_not_ofNat, BitVec.toNat_not,
    BitVec.toNat_ofNat, decide_eq_true (by omega), if_pos rfl, BitVec.toNat_not, BitVec.toNat_shiftLeft, Nat.shiftLeft_eq,
    BitVec.toNat_not, BitVec.toNat_ofNat]
  omega

theorem encLong_length_mono (a b : Nat) (hab : a ≤ b) (hb : b < 2^63) :
    (encLong (a : Int)).length ≤ (encLong (b : Int)).length := by
  unfold encLong
  rw [zig_nonneg a (by omega), zig_nonneg b hb]
  exact encodeVar_length_mono _ _ (by omega) (by omega)

/-- a varint cut before its last byte is an end-of-input error, never a shorter number: every strict prefix of what the
reader accepts is refused with `eof` -/
theorem decodeVarAux_cut : ∀ (p : Bytes) (fuel j acc : Nat) {q : Bytes} {z : Nat}, q ≠ [] →
    decodeVarAux fuel j acc (p ++ q) = .ok (z, []) → decodeVarAux fuel j acc p = .error .eof
  | _, 0, _, _, _, _, _, h => by simp [decodeVarAux] at h
  | [], _+1, _, _, _, _, _, _ => rfl
  | b :: p, fuel+1, j, acc, q, z, hq, h => by
    simp only [List.cons_append, decodeVarAux] at h ⊢
    split at h
    · simp only [Except.ok.injEq, Prod.mk.injEq, List.append_eq_nil_iff] at h
      exact absurd h.2.2 hq
    · rw [if_neg ‹_›]; exact decodeVarAux_cut p fuel _ _ hq h

theorem decLong_prefix_eof (n : Int) (p q : Bytes) (h : p ++ q = encLong n) (hq : q ≠ []) :
    decLong p = .error .eof := by
  have := decodeVar_encodeVar (zig n) (zig_lt n) []
  rw [List.append_nil, ← encLong, ← h] at this
  unfold decLong decodeVar
  rw [decodeVarAux_cut p 10 0 0 hq this]

end Avro
