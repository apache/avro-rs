import AvroModel.Resolve
import AvroModel.Conforms
import AvroProofs.Lemmas.Fuel
/-! C07 (strict fragment): every value in the canonical representation is accepted by validation. -/
namespace Avro

section
variable {fo : FloatOps} {cfg : Cfg} {env : Names}

theorem find_self_of_nodup : ∀ (fs : List (FieldMeta × Schema)), (fs.map (fun x => x.1.name)).Nodup →
    ∀ ms ∈ fs, fs.find? (fun x => x.1.name = ms.1.name) = some ms
  | a :: tl, hn, ms, hms => by
    simp only [List.map_cons, List.nodup_cons] at hn
    rcases List.mem_cons.mp hms with rfl | hms
    · simp
    · have hne : ¬ (a.1.name = ms.1.name) := fun e => hn.1 (e ▸ List.mem_map.mpr ⟨ms, hms, rfl⟩)
      simp only [List.find?_cons, hne, decide_false]
      exact find_self_of_nodup tl hn.2 ms hms

def VOK (fo : FloatOps) (cfg : Cfg) (env : Names) (s : Schema) (v : Value) : Prop :=
  ∃ n, ∀ fuel, n ≤ fuel → validate fo cfg env fuel s v = true

/-- the fields of a canonical record validate against any field list `all` in which each of `fs` is found under its name -/
def VOKFields (fo : FloatOps) (cfg : Cfg) (env : Names) (fs : List (FieldMeta × Schema)) (vs : List (Bytes × Value)) : Prop :=
  Ev fun fuel => vs.map Prod.fst = fs.map (fun x => x.1.name) ∧
    ∀ all : List (FieldMeta × Schema), (∀ ms ∈ fs, all.find? (fun x => x.1.name = ms.1.name) = some ms) →
      validateFieldsWith (validate fo cfg env fuel) all vs = true

theorem VOKFields.cons {m : FieldMeta} {s : Schema} {v : Value} {fs : List (FieldMeta × Schema)}
    {vs : List (Bytes × Value)} (h : VOK fo cfg env s v) (t : VOKFields fo cfg env fs vs) :
    VOKFields fo cfg env ((m, s) :: fs) ((m.name, v) :: vs) :=
  (Ev.and h t).mono fun fuel ⟨H1, hm, hv⟩ => ⟨by simp [hm], fun all hall => by
    simp only [validateFieldsWith, hall (m, s) (by simp), H1, Bool.true_and]
    exact hv all fun ms hms => hall ms (List.mem_cons_of_mem _ hms)⟩

theorem VOK.record {name : Bytes} {fields : List (FieldMeta × Schema)} {vfs : List (Bytes × Value)}
    (hn : (vfs.map Prod.fst).Nodup) (ih : VOKFields fo cfg env fields vfs) :
    VOK fo cfg env (.record name fields) (.record vfs) :=
  Ev.succ ih fun f ⟨hm, hval⟩ => by
    have hlen : vfs.length = fields.length := by rw [← List.length_map (f := Prod.fst), hm, List.length_map]
    have := List.length_filter_le (fun ms : FieldMeta × Schema => !isNullable ms.2) fields
    unfold validate
    simp only [fixedInconsistent, Bool.false_eq_true, if_false]
    rw [if_neg (by omega), if_neg (by omega)]
    exact hval fields (find_self_of_nodup fields (hm ▸ hn))

/-- one application of the recursor of `Conforms` and its companions; the last six minor premises are `nil`, `cons` of
`ConformsAll`, `ConformsEntries`, `ConformsFields`.  On a canonical leaf `validate` computes to `true`; where it has to be
opened it is by `unfold`, not `simp [validate]`: the equation lemmas of its overlapping patterns are dear to generate -/
theorem conforms_vok {s : Schema} {v : Value} (hc : Conforms cfg env s v) : VOK fo cfg env s v :=
  hc.rec (motive_1 := fun s v _ => VOK fo cfg env s v)
    (motive_2 := fun s vs _ => Ev fun fuel => vs.all (validate fo cfg env fuel s) = true)
    (motive_3 := fun s es _ => Ev fun fuel => es.all (fun kv => validate fo cfg env fuel s kv.2) = true)
    (motive_4 := fun fs vs _ => VOKFields fo cfg env fs vs)
    (null := Ev.of_succ fun _ => rfl)
    (boolean := fun _ => Ev.of_succ fun _ => rfl)
    (int := fun _ => Ev.of_succ fun _ => rfl)
    (date := fun _ => Ev.of_succ fun _ => rfl)
    (timeMillis := fun _ => Ev.of_succ fun _ => rfl)
    (long := fun _ => Ev.of_succ fun _ => rfl)
    (longL := fun _ => Ev.of_succ fun _ => decide_eq_true rfl)
    (float := fun _ => Ev.of_succ fun _ => rfl)
    (double := fun _ => Ev.of_succ fun _ => rfl)
    (bytes := fun _ => Ev.of_succ fun _ => rfl)
    (string := fun _ _ => Ev.of_succ fun _ => rfl)
    (fixed := fun _ => Ev.of_succ fun _ => by unfold validate; simp [fixedInconsistent])
    («enum» := fun h _ => Ev.of_succ fun _ => by unfold validate; simp [fixedInconsistent, h])
    (union := fun h _ _ ih => Ev.succ ih fun _ H => by unfold validate; simp [fixedInconsistent, h, H])
    (array := fun _ _ _ ih => Ev.succ ih fun _ H => H)
    (map := fun _ _ _ _ ih => Ev.succ ih fun _ H => H)
    (record := fun _ hn ih => .record hn ih)
    (decimalFixed := fun _ _ _ => Ev.of_succ fun _ => rfl)
    (decimalBytes := fun _ _ _ => Ev.of_succ fun _ => rfl)
    (bigDecimal := fun _ _ _ => Ev.of_succ fun _ => rfl)
    (uuidString := fun _ _ _ => Ev.of_succ fun _ => rfl)
    (uuidBytes := fun _ _ => Ev.of_succ fun _ => rfl)
    (uuidFixed := fun _ _ => Ev.of_succ fun _ => rfl)
    (duration := fun _ _ _ => Ev.of_succ fun _ => rfl)
    (ref := fun h _ _ ih => Ev.succ ih fun _ H => by unfold validate; simp [h, H])
    (Ev.of_forall fun _ => rfl)
    (fun _ _ ih it => (Ev.and ih it).mono fun f ⟨H1, H2⟩ => by simp [H1, H2])
    (Ev.of_forall fun _ => rfl)
    (fun _ _ _ _ ih it => (Ev.and ih it).mono fun f ⟨H1, H2⟩ => by simp [H1, H2])
    (Ev.of_forall fun _ => ⟨rfl, fun _ _ => rfl⟩)
    (fun _ _ ih it => .cons ih it)

/-! The same for the items of an array and the values of a map; nothing else in the development uses them. -/

theorem all_vok : ∀ {s : Schema} {vs : List Value}, ConformsAll cfg env s vs →
    ∃ n, ∀ fuel, n ≤ fuel → vs.all (validate fo cfg env fuel s) = true := by
  intro s vs hc
  induction vs with
  | nil => exact Ev.of_forall fun _ => rfl
  | cons _ _ ih =>
    cases hc with | cons h t => exact (Ev.and (conforms_vok (fo := fo) h) (ih t)).mono fun f ⟨H1, H2⟩ => by simp [H1, H2]

theorem entries_vok : ∀ {s : Schema} {es : List (Bytes × Value)}, ConformsEntries cfg env s es →
    ∃ n, ∀ fuel, n ≤ fuel → es.all (fun kv => validate fo cfg env fuel s kv.2) = true := by
  intro s es hc
  induction es with
  | nil => exact Ev.of_forall fun _ => rfl
  | cons _ _ ih =>
    cases hc with | cons _ _ h t => exact (Ev.and (conforms_vok (fo := fo) h) (ih t)).mono fun f ⟨H1, H2⟩ => by simp [H1, H2]

end
end Avro
