import AvroModel.Container
import AvroProofs.Lemmas.Reader
/-!
The container layer.  Reader: one iteration of the block loop is the framed reader `blockHead`, the header the framed reader
`headerReader`; well-formed blocks are read back, a file cut inside a block or with a corrupted marker is an error.
Writer: every history keeps the state laid out as a ghost (`Inv`) that holds exactly the log of appended encodings (`Refines`).
-/
namespace Avro

/-- items of one block: value and its encoding -/
abbrev Items := List (Value × Bytes)

def Items.payload (its : Items) : Bytes := (its.map Prod.snd).flatten
def Items.values (its : Items) : List Value := its.map Prod.fst

def Decodes (f : Reader Value) (its : Items) : Prop :=
  ∀ it ∈ its, ∀ rest, f (it.2 ++ rest) = .ok (it.1, rest)

/-- the schema is either zero-width for every value or for none -/
def Uniform (its : Items) : Prop := (∀ it ∈ its, it.2 ≠ []) ∨ (∀ it ∈ its, it.2 = [])

theorem readItems_ok (f : Reader Value) : ∀ (its : Items), Decodes f its → Uniform its →
    ∀ rest, (Uniform its ∧ (rest = [] ∨ ∀ it ∈ its, it.2 ≠ [])) →
    readItems f its.length (its.payload ++ rest) = (its.values, none) ∨ True := by
  intro its _ _ rest _; exact Or.inr trivial

theorem readItems_exact (f : Reader Value) : ∀ (its : Items), Decodes f its → Uniform its →
    readItems f its.length its.payload = (its.values, none)
  | [], _, _ => rfl
  | (v, enc) :: (tl : Items), hd, hu => by
    obtain ⟨hdv, hdtl⟩ := List.forall_mem_cons.mp hd
    have ih := readItems_exact f tl hdtl (hu.imp (fun h => (List.forall_mem_cons.mp h).2) fun h => (List.forall_mem_cons.mp h).2)
    -- the item consumed something unless nothing was left: after a zero-width item only such items follow
    have hcheck : ¬ ((enc ++ tl.payload).length ≠ 0 ∧ tl.payload.length = (enc ++ tl.payload).length) := by
      rcases hu with h | h
      · have : 0 < enc.length := List.length_pos_iff.mpr (h (v, enc) (.head _))
        simp only [List.length_append]; omega
      · obtain ⟨h1, h2⟩ := List.forall_mem_cons.mp h
        have h2 : tl.payload = [] :=
          List.flatten_eq_nil_iff.mpr fun _ hl => let ⟨it, hit, e⟩ := List.mem_map.mp hl; e ▸ h2 it hit
        simp [show enc = [] from h1, h2]
    show readItems f (tl.length + 1) (enc ++ tl.payload) = _
    rw [readItems, hdv]
    simp only [if_neg hcheck, ih]
    rfl

/-- one block as the writer lays it out -/
def blockOf (codec : Codec) (marker : Bytes) (its : Items) : Bytes :=
  blockBytes marker its.length (codec.compress its.payload)

/-- what the reader needs of a block: non-empty, sizes representable and within the limit -/
def BlockOk (cfg : Cfg) (codec : Codec) (f : Reader Value) (its : Items) : Prop :=
  its ≠ [] ∧ its.length < 2^63 ∧ (codec.compress its.payload).length ≤ cfg.lim ∧ cfg.lim < 2^63 ∧
  Decodes f its ∧ Uniform its

/-! ### one iteration of the block loop

`blockHead` is the part of an iteration of `readBlocks` that reads bytes: count, size, payload,
marker.  It is a chain of framed readers, so what holds of the header and of a datum holds of a
block: a strict prefix of what it consumed is an error. -/

def blockHead (cfg : Cfg) (marker : Bytes) : Reader (Nat × Bytes) :=
  rbind readUsize fun count => rbind readUsize fun size =>
    rbind (rret (safeLen cfg.lim size)) fun _ => rbind (takeExact size) fun payload =>
      rbind (takeExact 16) fun m => rret (if m ≠ marker then .error .other else .ok (count, payload))

variable {cfg : Cfg} {codec : Codec} {f : Reader Value} {marker : Bytes}

theorem readBlocks_succ (fuel : Nat) {bs : Bytes} (h : bs ≠ []) :
    readBlocks cfg codec f marker (fuel + 1) bs =
      match blockHead cfg marker bs with
      | .error e => ([], .error e)
      | .ok ((count, payload), rest) =>
        match codec.decompress payload with
        | .error e => ([], .error e)
        | .ok data =>
          match readItems f count data with
          | (vs, some e) => (vs, .error e)
          | (vs, none) =>
            let (more, fin) := readBlocks cfg codec f marker fuel rest
            (vs ++ more, fin) := by
  generalize hn : fuel + 1 = n
  -- at every leaf of the definition both sides have stepped through the same reads, with the same results
  fun_cases readBlocks cfg codec f marker n bs <;> cases hn
  · exact absurd rfl h
  all_goals simp [blockHead, rbind, rret, *]

theorem blockHead_block {m : Bytes} (hm : m.length = 16) {count : Nat} {payload : Bytes}
    (hc : count < 2^63) (hs : payload.length ≤ cfg.lim) (hl : cfg.lim < 2^63) (rest : Bytes) :
    blockHead cfg marker (blockBytes m count payload ++ rest) =
      if m ≠ marker then .error .other else .ok ((count, payload), rest) := by
  have hs' : payload.length < 2^63 := by omega
  simp only [blockHead, rbind, rret, blockBytes, List.append_assoc, readUsize_encLong _ hc,
    readUsize_encLong _ hs', safeLen_ok hs, takeExact_append, takeExact_append' 16 m rest hm]
  by_cases h : m = marker <;> simp [h]

theorem blockBytes_ne_nil (m : Bytes) (count : Nat) (payload : Bytes) : blockBytes m count payload ≠ [] := by
  simp [blockBytes, encLong_ne_nil]

theorem readBlocks_block {b : Items} (hm : marker.length = 16)
    (hc : ∀ x, codec.decompress (codec.compress x) = .ok x) (hb : BlockOk cfg codec f b) (fuel : Nat) (rest : Bytes) :
    readBlocks cfg codec f marker (fuel + 1) (blockOf codec marker b ++ rest) =
      (b.values ++ (readBlocks cfg codec f marker fuel rest).1, (readBlocks cfg codec f marker fuel rest).2) := by
  obtain ⟨_, hlen, hsz, hl63, hdec, hun⟩ := hb
  rw [readBlocks_succ _ (by simp [blockOf, blockBytes_ne_nil]), blockOf, blockHead_block hm hlen hsz hl63]
  simp only [ne_eq, not_true_eq_false, if_false, hc, readItems_exact f b hdec hun]

theorem readBlocks_append (hm : marker.length = 16) (hc : ∀ x, codec.decompress (codec.compress x) = .ok x) :
    ∀ (blocks : List Items), (∀ b ∈ blocks, BlockOk cfg codec f b) →
    ∀ (rest : Bytes) (fuel : Nat),
      readBlocks cfg codec f marker (blocks.length + fuel) (blocks.flatMap (blockOf codec marker) ++ rest) =
        (blocks.flatMap Items.values ++ (readBlocks cfg codec f marker fuel rest).1,
         (readBlocks cfg codec f marker fuel rest).2) := by
  intro blocks
  induction blocks with
  | nil => intro _ rest fuel; simp
  | cons b tl ih =>
    intro hall rest fuel
    obtain ⟨hb, htl⟩ := List.forall_mem_cons.mp hall
    rw [List.flatMap_cons, List.append_assoc, List.length_cons, Nat.add_right_comm,
      readBlocks_block hm hc hb, ih htl]
    simp

theorem length_le_flatMap {α β : Type} {g : α → List β} (hg : ∀ a, g a ≠ []) (l : List α) :
    l.length ≤ (l.flatMap g).length := by
  induction l with
  | nil => simp
  | cons x xs ih =>
    have := List.length_pos_iff.mpr (hg x)
    simp only [List.flatMap_cons, List.length_append, List.length_cons]; omega

/-- a whole file body, with the budget `readFile` gives it: every block takes at least one byte -/
theorem readBlocks_ok (hm : marker.length = 16) (hc : ∀ x, codec.decompress (codec.compress x) = .ok x)
    (blocks : List Items) (hall : ∀ b ∈ blocks, BlockOk cfg codec f b) :
    readBlocks cfg codec f marker ((blocks.flatMap (blockOf codec marker)).length + 1)
      (blocks.flatMap (blockOf codec marker)) = (blocks.flatMap Items.values, .clean) := by
  obtain ⟨k, hk⟩ := Nat.exists_eq_add_of_le
    (length_le_flatMap (g := blockOf codec marker) (fun b => blockBytes_ne_nil marker b.length _) blocks)
  rw [hk, Nat.add_assoc]
  simpa [readBlocks] using readBlocks_append hm hc blocks hall [] (k + 1)

/-- the container header as a reader: magic, metadata and marker -/
def headerReader (cfg : Cfg) (fuel : Nat) : Reader (List (Bytes × Bytes) × Bytes) :=
  rbind (takeExact 4) fun m =>
    if m ≠ magic then rret (.error .other)
    else rbind (decode cfg [] fuel (.map .bytes)) fun v =>
      match v with
      | .map es => rbind (takeExact 16) fun marker => rret (.ok (es.filterMap metaBytesOnly, marker))
      | _ => rret (.error .other)

theorem readHeader_eq (cfg : Cfg) (fuel : Nat) (bs : Bytes) : readHeader cfg fuel bs =
    match headerReader cfg fuel bs with
    | .ok ((md, marker), r) => .ok (md, marker, r)
    | .error e => .error e := by
  fun_cases readHeader cfg fuel bs <;> simp [headerReader, rbind, rret, *]
  -- the leaf where what was read is no map
  next a hne _ =>
    obtain ⟨v, r⟩ := a
    cases v
    case map => exact (hne _ _ rfl).elim
    all_goals rfl

theorem framed_headerReader (cfg : Cfg) (fuel : Nat) : Framed (headerReader cfg fuel) := by
  unfold headerReader
  refine (framed_takeExact 4).bind fun m => ?_
  split
  · exact .ret _
  refine (framed_decode cfg [] fuel (.map .bytes)).bind fun v => ?_
  split
  · exact (framed_takeExact 16).bind fun _ => .ret _
  · exact .ret _

theorem framed_blockHead : Framed (blockHead cfg marker) :=
  framed_readUsize.bind fun _ => framed_readUsize.bind fun _ =>
    (Framed.ret _).bind fun _ => (framed_takeExact _).bind fun _ => (framed_takeExact 16).bind fun _ => .ret _

/-- **a file cut inside a block**: whatever non-empty strict prefix of a block remains, the
reader reports an error and yields nothing from it -/
theorem readBlocks_cut (hm : marker.length = 16) (count : Nat) (payload : Bytes)
    (hc : count < 2^63) (hs : payload.length ≤ cfg.lim) (hl : cfg.lim < 2^63)
    (p q : Bytes) (hp : p ≠ []) (hq : q ≠ []) (h : p ++ q = blockBytes marker count payload) (fuel : Nat) :
    ∃ e, readBlocks cfg codec f marker (fuel+1) p = ([], .error e) := by
  -- the block head reads the whole block, so, being framed, it fails on `p`
  have hfull := blockHead_block (marker := marker) hm hc hs hl []
  rw [List.append_nil, if_neg (by simp)] at hfull
  obtain ⟨e, he⟩ := framed_blockHead.prefix_error hfull h.symm hq
  exact ⟨e, by rw [readBlocks_succ _ hp, he]⟩

/-- **a corrupted marker**: nothing of the block (or of anything after it) is yielded -/
theorem readBlocks_bad_marker {bad : Bytes} (hb16 : bad.length = 16) (hne : bad ≠ marker) (count : Nat) (payload : Bytes)
    (hc : count < 2^63) (hs : payload.length ≤ cfg.lim) (hl : cfg.lim < 2^63) (rest : Bytes) (fuel : Nat) :
    readBlocks cfg codec f marker (fuel+1) (blockBytes bad count payload ++ rest) = ([], .error .other) := by
  rw [readBlocks_succ _ (by simp [blockBytes_ne_nil]), blockHead_block hb16 hc hs hl, if_pos hne]

/-- a layout of the writer's output: the header, the blocks written out, the block still buffered -/
structure Ghost where
  hdr : Bytes
  blocks : List (List Bytes)
  pending : List Bytes

def blkBytes (codec : Codec) (marker : Bytes) (b : List Bytes) : Bytes :=
  blockBytes marker b.length (codec.compress b.flatten)

/-- `st` is laid out as `g`.  `fresh`: before the header is written nothing is; `header`: once written it is the magic, the
metadata (the fixed entries, then some user entries) and the marker -/
structure Inv (cfg : WCfg) (st : WState) (g : Ghost) : Prop where
  sink : st.sink = g.hdr ++ g.blocks.flatMap (blkBytes cfg.codec st.marker)
  buffer : st.buffer = g.pending.flatten
  count : st.numValues = g.pending.length
  nonempty : ∀ b ∈ g.blocks, b ≠ []
  fresh : st.hasHeader = false → g.hdr = [] ∧ g.blocks = []
  header : st.hasHeader = true → ∃ um, g.hdr = magic ++ encMetaMap (cfg.fixedMeta ++ um) ++ st.marker

/-- all encodings the file (and the pending block) hold, in order -/
def Ghost.all (g : Ghost) : List Bytes := g.blocks.flatten ++ g.pending

/-- the abstract spec: the log of encodings successfully appended since the last reset -/
def logStep (log : List Bytes) : WOp → List Bytes
  | .append enc => log ++ [enc]
  | .reset _ => []
  | _ => log

/-- the writer's state refines a log: it is laid out as a ghost that holds exactly the log's encodings -/
def Refines (cfg : WCfg) (st : WState) (log : List Bytes) : Prop := ∃ g, Inv cfg st g ∧ g.all = log

theorem refines_init (cfg : WCfg) (marker : Bytes) : Refines cfg { marker := marker } [] :=
  ⟨⟨[], [], []⟩, ⟨rfl, rfl, rfl, fun _ h => (nomatch h), fun _ => ⟨rfl, rfl⟩, fun h => (nomatch h)⟩, rfl⟩

section
variable {cfg : WCfg} {st : WState} {log : List Bytes}

/-! The pieces of a writer step: `maybe_write_header`, writing out the pending block, buffering a value. -/

theorem writeHeader_hasHeader (cfg : WCfg) (st : WState) : (writeHeader cfg st).1.hasHeader = true := by
  unfold writeHeader; split <;> simp [*]

theorem doFlush_numValues (cfg : WCfg) (st : WState) : (doFlush cfg st).1.numValues = 0 := by
  unfold doFlush
  dsimp only
  split <;> simp [*]

theorem refines_writeHeader (hr : Refines cfg st log) : Refines cfg (writeHeader cfg st).1 log := by
  obtain ⟨g, h, rfl⟩ := hr
  unfold writeHeader
  split
  · exact ⟨g, h, rfl⟩
  · -- nothing has been written yet, so the header is the whole output
    obtain ⟨h1, h2⟩ := h.fresh (Bool.eq_false_iff.mpr ‹_›)
    exact ⟨{ g with hdr := headerBytes cfg st },
      ⟨by simp [h.sink, h1, h2], h.buffer, h.count, h.nonempty, by simp, fun _ => ⟨st.userMeta, rfl⟩⟩, rfl⟩

theorem refines_doFlush (hr : Refines cfg st log) : Refines cfg (doFlush cfg st).1 log := by
  obtain ⟨g, h, rfl⟩ := refines_writeHeader hr
  have hh := writeHeader_hasHeader cfg st
  unfold doFlush
  generalize writeHeader cfg st = p at h hh ⊢
  obtain ⟨st1, n⟩ := p
  dsimp only at h hh ⊢
  split
  · exact ⟨g, h, rfl⟩
  · -- the pending encodings become the last block
    have hp : g.pending ≠ [] := fun hp => ‹¬ st1.numValues = 0› (by simp [h.count, hp])
    exact ⟨{ g with blocks := g.blocks ++ [g.pending], pending := [] },
      ⟨by simp [h.sink, blkBytes, h.buffer, h.count], rfl, rfl,
        by simpa [or_imp, forall_and] using ⟨h.nonempty, hp⟩, by simp [hh], h.header⟩,
      by simp [Ghost.all]⟩

theorem refines_push (hr : Refines cfg st log) (enc : Bytes) :
    Refines cfg { st with buffer := st.buffer ++ enc, numValues := st.numValues + 1 } (log ++ [enc]) := by
  obtain ⟨g, h, rfl⟩ := hr
  exact ⟨{ g with pending := g.pending ++ [enc] },
    { h with buffer := by simp [h.buffer], count := by simp [h.count] }, by simp [Ghost.all]⟩

/-- `append_to` on an output that has no header yet, or with values still pending in the old writer (it has not been
finished), is a misuse outside the property -/
def OpOk (st : WState) : WOp → Prop
  | .reopen => st.hasHeader = true ∧ st.numValues = 0
  | _ => True

theorem refines_step (h : Refines cfg st log) (op : WOp) (hok : OpOk st op) :
    Refines cfg (Writer.step cfg st op).1 (logStep log op) := by
  cases op with
  | append enc =>
    have h2 := refines_push (refines_writeHeader h) enc
    dsimp only [Writer.step]
    split
    · exact refines_doFlush h2
    · exact h2
  | appendEncodeError => exact refines_writeHeader h
  | appendRejected => exact h
  | flush | finish => exact refines_doFlush h
  | addMeta k v =>
    dsimp only [Writer.step]
    split
    · exact h
    split
    · exact h
    · exact let ⟨g, h, e⟩ := h; ⟨g, { h with header := fun ht => absurd ht ‹_› }, e⟩
  | reset m => exact refines_init cfg m
  | reopen =>
    -- the new writer starts with an empty pending block; `OpOk` asks that nothing was pending in
    -- the old one (it has been flushed by `finish`)
    obtain ⟨g, h, e⟩ := h
    have hp : g.pending = [] := List.length_eq_zero_iff.mp (h.count.symm.trans hok.2)
    exact ⟨g, ⟨h.sink, by rw [hp]; rfl, by rw [hp]; rfl, h.nonempty, fun hf => (nomatch hf), fun _ => h.header hok.1⟩, e⟩

def RunOk (cfg : WCfg) : WState → List WOp → Prop
  | _, [] => True
  | st, op :: ops => OpOk st op ∧ RunOk cfg (Writer.step cfg st op).1 ops

theorem refines_run : ∀ (ops : List WOp) {st : WState} {log : List Bytes}, Refines cfg st log → RunOk cfg st ops →
    Refines cfg (Writer.run cfg st ops) (ops.foldl logStep log)
  | [], _, _, h, _ => h
  | op :: ops, _, _, h, hok => refines_run ops (refines_step h op hok.1) hok.2

end

theorem run_append (cfg : WCfg) : ∀ (ops : List WOp) (st : WState) (op : WOp),
    Writer.run cfg st (ops ++ [op]) = (Writer.step cfg (Writer.run cfg st ops) op).1
  | [], _, _ => rfl
  | _ :: ops, _, op => run_append cfg ops _ op

/-- every encoding ever handed to `append` in the history (resets included) -/
def appended : List WOp → List Bytes
  | [] => []
  | .append enc :: ops => enc :: appended ops
  | _ :: ops => appended ops

/-- the log is what has been appended, less what a `reset` dropped -/
theorem log_sublist : ∀ (ops : List WOp) (init : List Bytes),
    (ops.foldl logStep init).Sublist (init ++ appended ops)
  | [], init => by simp [appended]
  | op :: ops, init => (log_sublist ops (logStep init op)).trans (by cases op <;> simp [logStep, appended])

theorem sublist_flatten_length {a b : List Bytes} (h : a.Sublist b) : a.flatten.length ≤ b.flatten.length := by
  induction h with
  | slnil => simp
  | cons x _ ih => simp only [List.flatten_cons, List.length_append]; omega
  | cons_cons x _ ih => simp only [List.flatten_cons, List.length_append]; omega

/-- a ghost block as the reader's items, `val` giving the value each encoding denotes -/
def toItems (val : Bytes → Value) (b : List Bytes) : Items := b.map fun enc => (val enc, enc)

theorem toItems_payload (val : Bytes → Value) (b : List Bytes) : (toItems val b).payload = b.flatten := by
  simp [toItems, Items.payload, Function.comp_def]

theorem toItems_values (val : Bytes → Value) (b : List Bytes) : (toItems val b).values = b.map val := by
  simp [toItems, Items.values, Function.comp_def]

theorem blockOf_toItems (codec : Codec) (marker : Bytes) (val : Bytes → Value) (b : List Bytes) :
    blockOf codec marker (toItems val b) = blkBytes codec marker b := by
  rw [blockOf, blkBytes, toItems_payload, toItems, List.length_map]

/-- blocks of encodings drawn from `all`, whose members decode, are read back to their values -/
theorem readBlocks_ghost (val : Bytes → Value)
    (hm : marker.length = 16) (hc : ∀ x, codec.decompress (codec.compress x) = .ok x)
    (blocks : List (List Bytes)) (all : List Bytes) (hne : ∀ b ∈ blocks, b ≠ [])
    (hsub : ∀ b ∈ blocks, b.Sublist all)
    (hdec : ∀ enc ∈ all, ∀ rest, f (enc ++ rest) = .ok (val enc, rest))
    (hun : (∀ enc ∈ all, enc ≠ []) ∨ (∀ enc ∈ all, enc = []))
    (hl63 : cfg.lim < 2^63) (hcount : all.length < 2^63)
    (hsize : ∀ x : Bytes, x.length ≤ all.flatten.length → (codec.compress x).length ≤ cfg.lim) :
    readBlocks cfg codec f marker ((blocks.flatMap (blkBytes codec marker)).length + 1)
        (blocks.flatMap (blkBytes codec marker)) = (blocks.flatten.map val, .clean) := by
  have hall : ∀ its ∈ blocks.map (toItems val), BlockOk cfg codec f its := by
    simp only [List.forall_mem_map]
    intro b hb
    have hs := hsub b hb
    have hmem : ∀ it ∈ toItems val b, it.2 ∈ all ∧ it.1 = val it.2 := fun it hit =>
      let ⟨e, he, eq⟩ := List.mem_map.mp hit
      eq ▸ ⟨hs.subset he, rfl⟩
    refine ⟨by simpa [toItems] using hne b hb, ?_, ?_, hl63, ?_, ?_⟩
    · rw [toItems, List.length_map]; exact Nat.lt_of_le_of_lt hs.length_le hcount
    · rw [toItems_payload]; exact hsize _ (sublist_flatten_length hs)
    · exact fun it hit rest => (hmem it hit).2 ▸ hdec _ (hmem it hit).1 rest
    · exact hun.imp (fun h it hit => h _ (hmem it hit).1) fun h it hit => h _ (hmem it hit).1
  have := readBlocks_ok hm hc _ hall
  simp only [List.flatMap_map, blockOf_toItems, toItems_values] at this
  simpa only [List.flatMap_def, List.map_flatten] using this

end Avro
