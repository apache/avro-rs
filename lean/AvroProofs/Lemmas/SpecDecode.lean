import AvroProofs.Lemmas.SpecVarint
import AvroProofs.Lemmas.Reader
import AvroProofs.Lemmas.Fuel
/-! C02, reverse direction: every specification-legal layout is decoded to its value. -/
namespace Avro
open Avro.Spec

section
variable {cfg : Cfg} {env : Names}

/-- decoding `enc` followed by anything returns `v` and exactly the rest, for every large enough
recursion budget (`Ev`, Lemmas/Fuel.lean, spelled out, as in the five companions below; dot notation on a hypothesis of
these types does not find the `Ev` lemmas: write `Ev.mono h …`, `Ev.and h t`) -/
def DC (cfg : Cfg) (env : Names) (s : Schema) (v : Value) (enc : Bytes) : Prop :=
  ∃ n, ∀ fuel, n ≤ fuel → ∀ rest, decode cfg env fuel s (enc ++ rest) = .ok (v, rest)

def DCItems (cfg : Cfg) (env : Names) (s : Schema) (vs : List Value) (enc : Bytes) : Prop :=
  ∃ n, ∀ fuel, n ≤ fuel → ∀ acc rest,
    decodeN (decode cfg env fuel s) vs.length acc (enc ++ rest) = .ok (acc.reverse ++ vs, rest)

def DCEntries (cfg : Cfg) (env : Names) (s : Schema) (es : List (Bytes × Value)) (enc : Bytes) : Prop :=
  ∃ n, ∀ fuel, n ≤ fuel → ∀ acc rest,
    decodeN (decEntryWith cfg.lim (decode cfg env fuel s)) es.length acc (enc ++ rest) = .ok (acc.reverse ++ es, rest)

def DCBlocks (cfg : Cfg) (env : Names) (s : Schema) (k : Nat) (vs : List Value) (enc : Bytes) : Prop :=
  ∃ n, ∀ fuel, n ≤ fuel → ∀ (acc : List Value) (rest : Bytes) (bfuel : Nat), acc.length = k → enc.length < bfuel →
    arrayLoop cfg (decode cfg env fuel s) bfuel acc (enc ++ rest) = .ok (acc ++ vs, rest)

def DCMapBlocks (cfg : Cfg) (env : Names) (s : Schema) (k : Nat) (es : List (Bytes × Value)) (enc : Bytes) : Prop :=
  ∃ n, ∀ fuel, n ≤ fuel → ∀ (acc : List (Bytes × Value)) (rest : Bytes) (bfuel : Nat), acc.length = k →
    ((acc ++ es).map Prod.fst).Nodup → enc.length < bfuel →
    mapLoop cfg (decEntryWith cfg.lim (decode cfg env fuel s)) bfuel acc (enc ++ rest) = .ok (acc ++ es, rest)

def DCFields (cfg : Cfg) (env : Names) (fs : List (FieldMeta × Schema)) (vs : List (Bytes × Value)) (enc : Bytes) : Prop :=
  ∃ n, ∀ fuel, n ≤ fuel → ∀ rest, decodeFieldsWith (decode cfg env fuel) fs (enc ++ rest) = .ok (vs, rest)

theorem dc_null : DC cfg env .null .null [] := Ev.of_succ fun f rest => by simp [decode]

theorem dc_boolean (b : Bool) : DC cfg env .boolean (.boolean b) [if b then 1 else 0] :=
  Ev.of_succ fun f rest => by cases b <;> simp [decode]

theorem dc_int {n : Int} (h : i32ok n) : DC cfg env .int (.int n) (Spec.long n) :=
  Ev.of_succ fun f rest => by simp [decode, Spec.long_eq_encLong_i32 h, decInt_encLong n h.1 h.2]
theorem dc_date {n : Int} (h : i32ok n) : DC cfg env .date (.date n) (Spec.long n) :=
  Ev.of_succ fun f rest => by simp [decode, Spec.long_eq_encLong_i32 h, decInt_encLong n h.1 h.2]
theorem dc_timeMillis {n : Int} (h : i32ok n) : DC cfg env .timeMillis (.timeMillis n) (Spec.long n) :=
  Ev.of_succ fun f rest => by simp [decode, Spec.long_eq_encLong_i32 h, decInt_encLong n h.1 h.2]
theorem dc_long {n : Int} (h : i64ok n) : DC cfg env .long (.long n) (Spec.long n) :=
  Ev.of_succ fun f rest => by simp [decode, Spec.long_eq_encLong h, decLong_encLong n h.1 h.2]
theorem dc_longL {k : LongKind} {n : Int} (h : i64ok n) : DC cfg env (.longL k) (.longL k n) (Spec.long n) :=
  Ev.of_succ fun f rest => by simp [decode, Spec.long_eq_encLong h, decLong_encLong n h.1 h.2]

theorem dc_float (bits : UInt32) : DC cfg env .float (.float bits) (leBytes 4 bits.toNat) :=
  Ev.of_succ fun f rest => by
    simp [decode, takeExact_append' 4 _ rest (leBytes_length 4 _), ofLeBytes_leBytes_lt (k := 4) bits.toNat_lt]

theorem dc_double (bits : UInt64) : DC cfg env .double (.double bits) (leBytes 8 bits.toNat) :=
  Ev.of_succ fun f rest => by
    simp [decode, takeExact_append' 8 _ rest (leBytes_length 8 _), ofLeBytes_leBytes_lt (k := 8) bits.toNat_lt]

/-- `decode_len` then `read_exact`, on what the specification writes for a byte string -/
theorem decBytes_spec {lim : Nat} (hl : lim < 2^63) {b : Bytes} (h : b.length ≤ lim) (rest : Bytes) :
    decBytes lim (Spec.long b.length ++ (b ++ rest)) = .ok (b, rest) := by
  rw [Spec.long_eq_encLong_nat b.length (by omega), ← List.append_assoc]; exact decBytes_encBytes lim b h hl rest

theorem decString_spec {lim : Nat} (hl : lim < 2^63) {b : Bytes} (h : b.length ≤ lim) (hu : validUtf8 b = true)
    (rest : Bytes) : decString lim (Spec.long b.length ++ (b ++ rest)) = .ok (b, rest) := by
  rw [Spec.long_eq_encLong_nat b.length (by omega), ← List.append_assoc]; exact decString_encBytes lim b h hl hu rest

theorem dc_bytes {b : Bytes} (hl : cfg.lim < 2^63) (h : b.length ≤ cfg.lim) :
    DC cfg env .bytes (.bytes b) (Spec.long b.length ++ b) :=
  Ev.of_succ fun f rest => by simp [decode, decBytes_spec hl h]

theorem dc_string {u : Bytes} (hl : cfg.lim < 2^63) (h : u.length ≤ cfg.lim) (hu : validUtf8 u = true) :
    DC cfg env .string (.string u) (Spec.long u.length ++ u) :=
  Ev.of_succ fun f rest => by simp [decode, decString_spec hl h hu]

theorem dc_fixed {name b : Bytes} (h : b.length ≤ cfg.lim) : DC cfg env (.fixed name b.length) (.fixed b.length b) b :=
  Ev.of_succ fun f rest => by simp [decode, decFixed_append cfg.lim b h]

theorem dc_enum {name : Bytes} {syms : List Bytes} {d : Option Bytes} {i : Nat} {sym : Bytes}
    (h : syms[i]? = some sym) (hi : i < 2^31) : DC cfg env (.enum name syms d) (.enum i sym) (Spec.long i) :=
  Ev.of_succ fun f rest => by
    have h0 : ¬ ((i : Int) < 0) := by omega
    simp [decode, Spec.long_eq_encLong_nat i (by omega), decInt_encLong i (by omega) (by omega), h0, h]

/-- decimals: the decoder takes whatever two's-complement bytes are there -/
theorem dc_decimalBytes {p sc : Nat} {i : Int} {b : Bytes} (hl : cfg.lim < 2^63)
    (h1 : fromSignedBE b = i) (h2 : b.length ≤ cfg.lim) :
    DC cfg env (.decimal p sc .bytes) (.decimal i b.length) (Spec.long b.length ++ b) :=
  Ev.of_succ fun f rest => by simp [decode, decBytes_spec hl h2, h1]

theorem dc_decimalFixed {p sc : Nat} {name : Bytes} {i : Int} {b : Bytes}
    (h1 : fromSignedBE b = i) (h2 : b.length ≤ cfg.lim) :
    DC cfg env (.decimal p sc (.fixed name b.length)) (.decimal i b.length) b :=
  Ev.of_succ fun f rest => by simp [decode, decFixed_append cfg.lim b h2, h1]

theorem dc_uuidBytes {b : Bytes} (hl : cfg.lim < 2^63) (h16 : b.length = 16) (hlim : 16 ≤ cfg.lim) :
    DC cfg env .uuidBytes (.uuid b) (Spec.long 16 ++ b) :=
  Ev.of_succ fun f rest => by
    have := decBytes_spec hl (b := b) (by omega) rest
    simp_all [decode]

theorem dc_uuidFixed {name b : Bytes} (h16 : b.length = 16) (hlim : 16 ≤ cfg.lim) :
    DC cfg env (.uuidFixed name 16) (.uuid b) b :=
  Ev.of_succ fun f rest => by
    have := decFixed_append cfg.lim b (by omega) rest
    simp_all [decode]

theorem dc_uuidString (hP : PrimFacts) {b : Bytes} (hl : cfg.lim < 2^63) (h16 : b.length = 16) (h36 : 36 ≤ cfg.lim) :
    DC cfg env .uuidString (.uuid b) (Spec.long 36 ++ uuidToText b) :=
  Ev.of_succ fun f rest => by
    obtain ⟨t1, t2, t3⟩ := hP.uuid_text b h16
    have := decString_spec hl (b := uuidToText b) (by omega) t1 rest
    simp_all [decode]

theorem dc_bigDecimal {u sc : Int} (hl : cfg.lim < 2^63) (hu : fromSignedBE (toSignedBE u) = u) (hsc : i64ok sc)
    (hlen : (Spec.long (toSignedBE u).length ++ toSignedBE u ++ Spec.long sc).length ≤ cfg.lim) :
    DC cfg env .bigDecimal (.bigDecimal u sc)
      (Spec.long (Spec.long (toSignedBE u).length ++ toSignedBE u ++ Spec.long sc).length ++
        (Spec.long (toSignedBE u).length ++ toSignedBE u ++ Spec.long sc)) :=
  Ev.of_succ fun f rest => by
    have hm : (toSignedBE u).length ≤ cfg.lim := by simp only [List.length_append] at hlen; omega
    have hin : deserBigDecimal cfg.lim (Spec.long (toSignedBE u).length ++ toSignedBE u ++ Spec.long sc) = .ok (u, sc) := by
      have := decLong_encLong sc hsc.1 hsc.2 []
      rw [List.append_nil] at this
      simp [deserBigDecimal, decBytes_spec hl hm, Spec.long_eq_encLong hsc, this, hu]
    simp only [decode]
    rw [List.append_assoc _ _ rest, decBytes_spec hl hlen]
    simp only [hin]

theorem dc_duration {name : Bytes} {mo d ms : Nat} (h1 : mo < 2^32) (h2 : d < 2^32) (h3 : ms < 2^32) :
    DC cfg env (.duration name 12) (.duration mo d ms) (leBytes 4 mo ++ leBytes 4 d ++ leBytes 4 ms) :=
  Ev.of_succ fun f rest => by
    have l4 : ∀ n, (leBytes 4 n).length = 4 := leBytes_length 4
    simp only [decode, if_true]
    rw [takeExact_append' 12 _ rest (by simp [l4]), List.append_assoc]
    simp [List.drop_append, List.drop_eq_nil_of_le, l4, ofLeBytes_leBytes_lt (k := 4) h1,
      ofLeBytes_leBytes_lt (k := 4) h2, ofLeBytes_leBytes_lt (k := 4) h3]

theorem dc_union {bs : List Schema} {i : Nat} {b : Schema} {v : Value} {enc : Bytes}
    (h : bs[i]? = some b) (hi : i < 2^32) (ih : DC cfg env b v enc) :
    DC cfg env (.union bs) (.union i v) (Spec.long i ++ enc) :=
  Ev.succ ih fun f H rest => by
    have h0 : ¬ ((i : Int) < 0) := by omega
    simp [decode, Spec.long_eq_encLong_nat i (by omega), decLong_encLong (i : Int) (by omega) (by omega), h0, h, H rest,
      Nat.mod_eq_of_lt hi]

theorem dc_ref {n : Bytes} {s : Schema} {v : Value} {enc : Bytes}
    (h : env.find? n = some s) (ih : DC cfg env s v enc) : DC cfg env (.ref n) v enc :=
  Ev.succ ih fun f H rest => by simp only [decode, h]; exact H rest

theorem dc_record {name : Bytes} {fields : List (FieldMeta × Schema)} {vfs : List (Bytes × Value)} {enc : Bytes}
    (ih : DCFields cfg env fields vfs enc) : DC cfg env (.record name fields) (.record vfs) enc :=
  Ev.succ ih fun f H rest => by simp [decode, H rest]

theorem dcitems_nil {s : Schema} : DCItems cfg env s [] [] :=
  Ev.of_forall fun _ acc rest => by simp [decodeN]

theorem dcitems_cons {s : Schema} {v : Value} {vs : List Value} {e es : Bytes}
    (h : DC cfg env s v e) (t : DCItems cfg env s vs es) : DCItems cfg env s (v :: vs) (e ++ es) :=
  (Ev.and h t).mono fun f ⟨H1, H2⟩ acc rest => by
    simp [decodeN, H1, H2]

theorem dcentries_nil {s : Schema} : DCEntries cfg env s [] [] :=
  Ev.of_forall fun _ acc rest => by simp [decodeN]

theorem dcentries_cons {s : Schema} {k : Bytes} {v : Value} {es : List (Bytes × Value)} {e rest' : Bytes}
    (hl : cfg.lim < 2^63) (hk : k.length ≤ cfg.lim) (hu : validUtf8 k = true)
    (h : DC cfg env s v e) (t : DCEntries cfg env s es rest') :
    DCEntries cfg env s ((k, v) :: es) (Spec.long k.length ++ k ++ e ++ rest') :=
  (Ev.and h t).mono fun f ⟨H1, H2⟩ acc rest => by
    simp [decodeN, decEntryWith, decString_spec hl hk hu, H1, H2]

theorem dcfields_nil : DCFields cfg env [] [] [] := Ev.of_forall fun _ rest => by simp [decodeFieldsWith]

theorem dcfields_cons {m : FieldMeta} {s : Schema} {v : Value} {fs : List (FieldMeta × Schema)}
    {vs : List (Bytes × Value)} {e rest' : Bytes}
    (h : DC cfg env s v e) (t : DCFields cfg env fs vs rest') :
    DCFields cfg env ((m, s) :: fs) ((m.name, v) :: vs) (e ++ rest') :=
  (Ev.and h t).mono fun f ⟨H1, H2⟩ rest => by
    simp [decodeFieldsWith, H1, H2]

/-- the two block headers of the specification: a count, or a negated count and a byte size -/
inductive BlockHdr (n : Nat) : Bytes → Prop
  | pos : BlockHdr n (Spec.long n)
  | neg {sz : Nat} : sz < 2^63 → BlockHdr n (Spec.long (-(n : Int)) ++ Spec.long sz)

theorem BlockHdr.reads {lim n : Nat} {hdr : Bytes} (h : BlockHdr n hdr) (hn : 0 < n) (hle : n ≤ lim) (hl : lim < 2^63)
    (r : Bytes) : decSeqLen lim (hdr ++ r) = .ok (n, r) := by
  cases h with
  | pos => rw [Spec.long_eq_encLong_nat n (by omega)]; exact decSeqLen_pos lim n hn hle hl r
  | neg hsz =>
    rw [Spec.long_eq_encLong (n := -(n : Int)) ⟨by omega, by omega⟩, Spec.long_eq_encLong_nat _ hsz, List.append_assoc]
    exact decSeqLen_neg lim n _ hn hle hl hsz r

theorem dcblocks_done {s : Schema} {k : Nat} : DCBlocks cfg env s k [] [0] :=
  Ev.of_forall fun fuel acc rest bfuel _ hb => by
    obtain ⟨b, rfl⟩ : ∃ b, bfuel = b + 1 := ⟨bfuel - 1, by simp at hb; omega⟩
    simp [arrayLoop_eq, blockLoop_done]

/-- a block after `k` items; `k + blk.length < 2^64` is the counter the crate keeps in a `usize` -/
theorem dcblocks_block {s : Schema} {k : Nat} {blk more : List Value} {hdr benc menc : Bytes}
    (hl : cfg.lim < 2^63) (hhdr : BlockHdr blk.length hdr) (hne : blk ≠ []) (hi : DCItems cfg env s blk benc)
    (h1 : blk.length ≤ cfg.lim) (h2 : (k + blk.length) * cfg.szValue ≤ cfg.lim) (hk : k + blk.length < 2^64)
    (hm : DCBlocks cfg env s (k + blk.length) more menc) :
    DCBlocks cfg env s k (blk ++ more) (hdr ++ benc ++ menc) :=
  (Ev.and hi hm).mono fun fuel ⟨H1, H2⟩ acc rest bfuel hacc hb => by
    have hh := hhdr.reads (List.length_pos_iff.mpr hne) h1 hl
    have := decSeqLen_reads_pos hh
    obtain ⟨b, rfl⟩ : ∃ b, bfuel = b + 1 := ⟨bfuel - 1, by omega⟩
    subst hacc
    have hb' : menc.length < b := by simp only [List.length_append] at hb; omega
    rw [arrayLoop_eq, List.append_assoc, blockLoop_block b hh hne hk h2 hl
      (fun r => by simpa using H1 [] r), ← arrayLoop_eq, H2 (acc ++ blk) rest b (by simp) hb', List.append_assoc]

theorem dc_array {inner : Schema} {items : List Value} {enc : Bytes}
    (ih : DCBlocks cfg env inner 0 items enc) : DC cfg env (.array inner) (.array items) enc :=
  Ev.succ ih fun f H rest => by
    simp only [decode, H [] rest ((enc ++ rest).length + 1) rfl (by simp; omega), List.nil_append]

theorem dcmapblocks_done {s : Schema} {k : Nat} : DCMapBlocks cfg env s k [] [0] :=
  Ev.of_forall fun fuel acc rest bfuel _ _ hb => by
    obtain ⟨b, rfl⟩ : ∃ b, bfuel = b + 1 := ⟨bfuel - 1, by simp at hb; omega⟩
    simp [mapLoop_eq, blockLoop_done]

theorem dcmapblocks_block {s : Schema} {k : Nat} {blk more : List (Bytes × Value)} {hdr benc menc : Bytes}
    (hl : cfg.lim < 2^63) (hhdr : BlockHdr blk.length hdr) (hne : blk ≠ []) (hi : DCEntries cfg env s blk benc)
    (h1 : blk.length ≤ cfg.lim) (h2 : (k + blk.length) * cfg.szEntry ≤ cfg.lim) (hk : k + blk.length < 2^64)
    (hm : DCMapBlocks cfg env s (k + blk.length) more menc) :
    DCMapBlocks cfg env s k (blk ++ more) (hdr ++ benc ++ menc) :=
  (Ev.and hi hm).mono fun fuel ⟨H1, H2⟩ acc rest bfuel hacc hnd hb => by
    have hh := hhdr.reads (List.length_pos_iff.mpr hne) h1 hl
    have := decSeqLen_reads_pos hh
    obtain ⟨b, rfl⟩ : ∃ b, bfuel = b + 1 := ⟨bfuel - 1, by omega⟩
    subst hacc
    have hb' : menc.length < b := by simp only [List.length_append] at hb; omega
    have hnd' : ((acc ++ blk).map Prod.fst).Nodup := by
      rw [← List.append_assoc, List.map_append] at hnd; exact (List.nodup_append.mp hnd).1
    rw [mapLoop_eq, List.append_assoc, blockLoop_block b hh hne hk h2 hl
      (fun r => by simpa using H1 [] r), ← mapLoop_eq, insertAll_eq_append acc blk hnd',
      H2 (acc ++ blk) rest b (by simp) (by simpa using hnd) hb', List.append_assoc]

theorem dc_map {inner : Schema} {es : List (Bytes × Value)} {enc : Bytes}
    (ih : DCMapBlocks cfg env inner 0 es enc) (hn : (es.map Prod.fst).Nodup) :
    DC cfg env (.map inner) (.map es) enc :=
  Ev.succ ih fun f H rest => by
    simp only [decode, H [] rest ((enc ++ rest).length + 1) rfl (by simpa using hn) (by simp; omega), List.nil_append]

/-- with items of positive `size_of`, a count whose byte size is within the limit fits the `usize` counter -/
theorem count_lt {lim sz n : Nat} (hl : lim < 2^63) (h1 : 1 ≤ sz) (h : n * sz ≤ lim) : n < 2^64 :=
  Nat.lt_of_le_of_lt (Nat.le_trans (Nat.le_mul_of_pos_right _ h1) h) (by omega)

/-! ### the induction over the specification relation

One application of the recursor of `SpecEnc` and its five companions (structural recursion over this family is some thirty
times dearer to check).  The minor premises of the companions share their names (`done`, `pos`, `neg`, `nil`, `cons`) and
are given by position, in the order `SpecBlocks`, `SpecItems`, `SpecMapBlocks`, `SpecEntries`, `SpecFields`. -/

theorem spec_dc (hl : cfg.lim < 2^63) (h1 : 1 ≤ cfg.szValue) (h2 : 1 ≤ cfg.szEntry) (hP : PrimFacts)
    {s : Schema} {v : Value} {enc : Bytes} (h : SpecEnc cfg env s v enc) : DC cfg env s v enc :=
  h.rec (motive_1 := fun s v enc _ => DC cfg env s v enc)
    (motive_2 := fun s k vs enc _ => DCBlocks cfg env s k vs enc)
    (motive_3 := fun s vs enc _ => DCItems cfg env s vs enc)
    (motive_4 := fun s k es enc _ => DCMapBlocks cfg env s k es enc)
    (motive_5 := fun s es enc _ => DCEntries cfg env s es enc)
    (motive_6 := fun fs vs enc _ => DCFields cfg env fs vs enc)
    (null := dc_null) (boolean := dc_boolean) (int := dc_int) (date := dc_date) (timeMillis := dc_timeMillis)
    (long := dc_long) (longL := dc_longL) (float := dc_float) (double := dc_double) (bytes := dc_bytes hl)
    (string := dc_string hl) (fixed := dc_fixed) («enum» := dc_enum) (union := fun h hi _ ih => dc_union h hi ih)
    (array := fun _ ih => dc_array ih) (map := fun _ hn ih => dc_map ih hn) (record := fun _ ih => dc_record ih)
    (decimalBytes := dc_decimalBytes hl) (decimalFixed := dc_decimalFixed) (uuidString := dc_uuidString hP hl)
    (uuidFixed := dc_uuidFixed) (uuidBytes := dc_uuidBytes hl) (bigDecimal := dc_bigDecimal hl) (duration := dc_duration)
    (ref := fun h _ _ ih => dc_ref h ih)
    dcblocks_done
    (fun hne _ ha hb _ ihi ihm => dcblocks_block hl .pos hne ihi ha hb (count_lt hl h1 hb) ihm)
    (fun hne _ ha hb hc _ ihi ihm => dcblocks_block hl (.neg hc) hne ihi ha hb (count_lt hl h1 hb) ihm)
    dcitems_nil (fun _ _ ih it => dcitems_cons ih it)
    dcmapblocks_done
    (fun hne _ ha hb _ ihi ihm => dcmapblocks_block hl .pos hne ihi ha hb (count_lt hl h2 hb) ihm)
    (fun hne _ ha hb hc _ ihi ihm => dcmapblocks_block hl (.neg hc) hne ihi ha hb (count_lt hl h2 hb) ihm)
    dcentries_nil (fun hk hu _ _ ih it => dcentries_cons hl hk hu ih it)
    dcfields_nil (fun _ _ ih it => dcfields_cons ih it)

/-! The same for the five companions, by recursion over their lists (`spec_blocks`, `spec_mapblocks`: over the length, since a
block takes a whole prefix off the list).  Nothing else in the development uses them. -/

theorem spec_items (hl : cfg.lim < 2^63) (h1 : 1 ≤ cfg.szValue) (h2 : 1 ≤ cfg.szEntry) (hP : PrimFacts) :
    ∀ {s : Schema} {vs : List Value} {enc : Bytes}, SpecItems cfg env s vs enc → DCItems cfg env s vs enc := by
  intro s vs
  induction vs with
  | nil => intro _ h; cases h; exact dcitems_nil
  | cons _ _ ih => intro _ h; cases h with | cons h t => exact dcitems_cons (spec_dc hl h1 h2 hP h) (ih t)

theorem spec_entries (hl : cfg.lim < 2^63) (h1 : 1 ≤ cfg.szValue) (h2 : 1 ≤ cfg.szEntry) (hP : PrimFacts) :
    ∀ {s : Schema} {es : List (Bytes × Value)} {enc : Bytes}, SpecEntries cfg env s es enc → DCEntries cfg env s es enc := by
  intro s es
  induction es with
  | nil => intro _ h; cases h; exact dcentries_nil
  | cons _ _ ih => intro _ h; cases h with | cons hk hu h t => exact dcentries_cons hl hk hu (spec_dc hl h1 h2 hP h) (ih t)

theorem spec_fields (hl : cfg.lim < 2^63) (h1 : 1 ≤ cfg.szValue) (h2 : 1 ≤ cfg.szEntry) (hP : PrimFacts) :
    ∀ {fs : List (FieldMeta × Schema)} {vs : List (Bytes × Value)} {enc : Bytes},
      SpecFields cfg env fs vs enc → DCFields cfg env fs vs enc := by
  intro fs
  induction fs with
  | nil => intro _ _ h; cases h; exact dcfields_nil
  | cons _ _ ih => intro _ _ h; cases h with | cons h t => exact dcfields_cons (spec_dc hl h1 h2 hP h) (ih t)

theorem spec_blocks (hl : cfg.lim < 2^63) (h1 : 1 ≤ cfg.szValue) (h2 : 1 ≤ cfg.szEntry) (hP : PrimFacts) :
    ∀ {s : Schema} {k : Nat} {vs : List Value} {enc : Bytes}, SpecBlocks cfg env s k vs enc → DCBlocks cfg env s k vs enc := by
  intro s k vs enc h
  induction hn : vs.length using Nat.strongRecOn generalizing k vs enc with
  | _ n ih =>
    subst hn
    cases h with
    | done => exact dcblocks_done
    | pos hne hi ha hb hm =>
      exact dcblocks_block hl .pos hne (spec_items hl h1 h2 hP hi) ha hb (count_lt hl h1 hb)
        (ih _ (by have := List.length_pos_iff.mpr hne; simp; omega) hm rfl)
    | neg hne hi ha hb hc hm =>
      exact dcblocks_block hl (.neg hc) hne (spec_items hl h1 h2 hP hi) ha hb (count_lt hl h1 hb)
        (ih _ (by have := List.length_pos_iff.mpr hne; simp; omega) hm rfl)

theorem spec_mapblocks (hl : cfg.lim < 2^63) (h1 : 1 ≤ cfg.szValue) (h2 : 1 ≤ cfg.szEntry) (hP : PrimFacts) :
    ∀ {s : Schema} {k : Nat} {es : List (Bytes × Value)} {enc : Bytes},
      SpecMapBlocks cfg env s k es enc → DCMapBlocks cfg env s k es enc := by
  intro s k es enc h
  induction hn : es.length using Nat.strongRecOn generalizing k es enc with
  | _ n ih =>
    subst hn
    cases h with
    | done => exact dcmapblocks_done
    | pos hne hi ha hb hm =>
      exact dcmapblocks_block hl .pos hne (spec_entries hl h1 h2 hP hi) ha hb (count_lt hl h2 hb)
        (ih _ (by have := List.length_pos_iff.mpr hne; simp; omega) hm rfl)
    | neg hne hi ha hb hc hm =>
      exact dcmapblocks_block hl (.neg hc) hne (spec_entries hl h1 h2 hP hi) ha hb (count_lt hl h2 hb)
        (ih _ (by have := List.length_pos_iff.mpr hne; simp; omega) hm rfl)

end
end Avro
