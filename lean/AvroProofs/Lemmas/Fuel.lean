/-!
Recursion budgets.  Every recursive model function takes a `fuel` that only stands for the thread stack, so theorems
about them have the shape "for every large enough fuel".  `Ev P` names that shape; it unfolds to the `∃ n, ∀ fuel, n ≤ fuel → …`
the property theorems spell out.
-/
namespace Avro

def Ev (P : Nat → Prop) : Prop := ∃ n, ∀ fuel, n ≤ fuel → P fuel

namespace Ev
variable {P Q R : Nat → Prop}

theorem of_forall (h : ∀ f, P f) : Ev P := ⟨0, fun f _ => h f⟩

/-- a function that does not recurse needs one unit of fuel -/
theorem of_succ (h : ∀ f, P (f + 1)) : Ev P :=
  ⟨1, fun fuel hf => by obtain ⟨f, rfl⟩ : ∃ f, fuel = f + 1 := ⟨fuel - 1, by omega⟩; exact h f⟩

theorem mono (h : Ev P) (hs : ∀ f, P f → Q f) : Ev Q :=
  let ⟨n, H⟩ := h; ⟨n, fun f hf => hs f (H f hf)⟩

/-- one more level of recursion needs one more unit of fuel -/
theorem succ (h : Ev P) (hs : ∀ f, P f → Q (f + 1)) : Ev Q :=
  let ⟨n, H⟩ := h
  ⟨n + 1, fun fuel hf => by
    obtain ⟨f, rfl⟩ : ∃ f, fuel = f + 1 := ⟨fuel - 1, by omega⟩
    exact hs f (H f (by omega))⟩

theorem and (hp : Ev P) (hq : Ev Q) : Ev fun f => P f ∧ Q f :=
  let ⟨n, Hp⟩ := hp; let ⟨m, Hq⟩ := hq
  ⟨max n m, fun f hf => ⟨Hp f (by omega), Hq f (by omega)⟩⟩

end Ev
end Avro
