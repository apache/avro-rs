import AvroModel.Rabin
/-! CRC-64-AVRO: the table-driven implementation equals the bit-serial LFSR (kernel-only: no bv_decide). -/
namespace Avro

theorem fpStep_eq (x : BitVec 64) : fpStep x = (x >>> 1) ^^^ (if x[0] then rabinEmpty else 0#64) := by
  unfold fpStep
  rw [BitVec.and_one_eq_setWidth_ofBool_getLsbD, BitVec.getLsbD_eq_getElem (by omega)]
  cases x[0]
  · simp
  · congr 1

theorem ite_xor (x y : Bool) (e : BitVec 64) :
    (if (x ^^ y) = true then e else 0#64) = (if x = true then e else 0#64) ^^^ (if y = true then e else 0#64) := by
  cases x <;> cases y <;> simp

/-- the step is linear over GF(2): the shift is, and so is the feedback term as a function of bit 0 -/
theorem fpStep_xor (a b : BitVec 64) : fpStep (a ^^^ b) = fpStep a ^^^ fpStep b := by
  rw [fpStep_eq, fpStep_eq, fpStep_eq, BitVec.getElem_xor, ite_xor, BitVec.ushiftRight_xor_distrib]
  ac_rfl

theorem fpStepN_xor (n : Nat) : ∀ a b : BitVec 64, fpStepN n (a ^^^ b) = fpStepN n a ^^^ fpStepN n b := by
  induction n with
  | zero => intro a b; rfl
  | succ n ih => intro a b; simp only [fpStepN]; rw [fpStep_xor, ih]

theorem fpStepN_low_zero (k : Nat) : ∀ h : BitVec 64, (∀ i, i < k → h.getLsbD i = false) → fpStepN k h = h >>> k := by
  induction k with
  | zero => intro h _; simp [fpStepN]
  | succ k ih =>
    intro h hz
    have h0 : h[0] = false := by
      have := hz 0 (by omega)
      simpa [BitVec.getLsbD_eq_getElem] using this
    simp only [fpStepN]
    rw [fpStep_eq, h0]
    simp only [Bool.false_eq_true, if_false, BitVec.xor_zero]
    rw [ih (h >>> 1) (by
      intro i hi
      rw [BitVec.getLsbD_ushiftRight]
      exact hz (1 + i) (by omega))]
    rw [← BitVec.shiftRight_add, Nat.add_comm]

theorem split_low8 (x : BitVec 64) : x = (x &&& ~~~(0xff#64)) ^^^ (x &&& 0xff#64) := by
  apply BitVec.eq_of_getElem_eq
  intro i hi
  simp only [BitVec.getElem_xor, BitVec.getElem_and, BitVec.getElem_not]
  cases x[i] <;> cases (0xff#64)[i] <;> rfl

theorem step8_eq_table (x : BitVec 64) : fpStepN 8 x = (x >>> 8) ^^^ fpTable (x &&& 0xff#64).toNat := by
  -- the high part has its low byte clear, so eight steps only shift it; the low byte is the table's index
  have hlow : ∀ i, i < 8 → (x &&& ~~~(0xff#64)).getLsbD i = false := fun i hi => by
    rw [BitVec.getLsbD_and, BitVec.getLsbD_not, BitVec.getLsbD_ofNat, show (0xff : Nat) = 2^8 - 1 from rfl,
      Nat.testBit_two_pow_sub_one]
    simp [hi, show i < 64 by omega]
  have hhi : (x &&& ~~~(0xff#64)) >>> 8 = x >>> 8 := by
    rw [BitVec.ushiftRight_and_distrib, show (~~~(0xff#64)) >>> 8 = BitVec.allOnes 64 >>> 8 by decide,
      ← BitVec.ushiftRight_and_distrib, BitVec.and_allOnes]
  conv => lhs; rw [split_low8 x]
  rw [fpStepN_xor, fpStepN_low_zero 8 _ hlow, hhi]
  congr 1
  unfold fpTable
  rw [BitVec.ofNat_toNat, BitVec.setWidth_eq]

/-- the table-driven update is the bit-serial CRC step (8 shifts of the LFSR) -/
theorem rabinUpdate_eq_crcByte (r : BitVec 64) (b : UInt8) : rabinUpdate r b = crcByte r b := by
  unfold rabinUpdate crcByte
  rw [step8_eq_table]
  congr 1
  have hb : (BitVec.ofNat 64 b.toNat) >>> 8 = 0#64 := by
    apply BitVec.eq_of_toNat_eq
    have := b.toNat_lt
    simp [BitVec.toNat_ofNat, Nat.shiftRight_eq_div_pow]
    omega
  rw [BitVec.ushiftRight_xor_distrib, hb, BitVec.xor_zero]

theorem rabin_eq_crc64 (bs : Bytes) : rabinState bs = crc64Avro bs := by
  unfold rabinState crc64Avro
  have : rabinUpdate = crcByte := by funext r b; exact rabinUpdate_eq_crcByte r b
  rw [this]

end Avro

