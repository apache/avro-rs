import AvroModel
import AvroProofs.Lemmas.Prim
/-!
# C15 — codecs: the wrapper logic that is the library's own

The compression algorithms are third-party; their round trip and interoperability are *validated*
by the harness against independent reference codecs (Python zlib/bz2/lzma, an own snappy raw
codec), not proved.  What is proved is the library's code around them.
-/
namespace Avro.C15

theorem crc32_lt (bs : Bytes) : crc32 bs < 256^4 := by
  unfold crc32
  have := (~~~(bs.foldl crc32Byte 0xFFFFFFFF#32)).isLt
  omega

/-- on a body followed by a four-byte trailer, the decoder is its chain of checks on the two parts -/
theorem snappyDecompress_append (lim : Nat) (raw : RawCodec) (body trailer : Bytes) (ht : trailer.length = 4) :
    snappyDecompress lim raw (body ++ trailer) =
      match raw.decompressLen body with
      | .error e => .error e
      | .ok size =>
        match safeLen lim size with
        | .error e => .error e
        | .ok _ =>
          match raw.decompress body with
          | .error e => .error e
          | .ok decoded => if ofBeBytes trailer = crc32 decoded then .ok decoded else .error .mismatch := by
  unfold snappyDecompress
  have hlen : (body ++ trailer).length - 4 = body.length := by simp [ht]
  rw [if_neg (by simp [ht]), hlen, List.take_left' rfl, List.drop_left' rfl]
  rfl

/-- **snappy frame round trip**, given the raw codec's round trip (validated by the harness):
the data comes back whenever it fits the allocation limit -/
theorem snappy_frame (lim : Nat) (raw : RawCodec) (x : Bytes)
    (h1 : raw.decompress (raw.compress x) = .ok x) (h2 : raw.decompressLen (raw.compress x) = .ok x.length)
    (hl : x.length ≤ lim) : snappyDecompress lim raw (snappyCompress raw x) = .ok x := by
  rw [snappyCompress, snappyDecompress_append lim raw _ _ (beBytes_length 4 _), h2]
  simp [safeLen_ok hl, h1, ofBeBytes_beBytes (crc32_lt x)]

/-- **a wrong checksum is rejected** (whatever the trailer is, if it is not the big-endian CRC-32
of what the body decompresses to) -/
theorem snappy_bad_crc (lim : Nat) (raw : RawCodec) (body trailer decoded : Bytes) (ht : trailer.length = 4)
    (hd : raw.decompress body = .ok decoded) (hbad : ofBeBytes trailer ≠ crc32 decoded) :
    ∃ e, snappyDecompress lim raw (body ++ trailer) = .error e := by
  rw [snappyDecompress_append lim raw body trailer ht, hd]
  rcases raw.decompressLen body with e | size
  · exact ⟨e, rfl⟩
  dsimp only
  rcases safeLen lim size with e | _
  · exact ⟨e, rfl⟩
  exact ⟨.mismatch, if_neg hbad⟩

/-- a block shorter than the checksum is an error — no slice underflow -/
theorem snappy_short (lim : Nat) (raw : RawCodec) (s : Bytes) (h : s.length < 4) :
    snappyDecompress lim raw s = .error .other := by
  unfold snappyDecompress; simp [h]

/-- the size a snappy stream *declares* is bounded before anything is allocated for it -/
theorem snappy_declared_size_bounded (lim : Nat) (raw : RawCodec) (s out : Bytes)
    (h : snappyDecompress lim raw s = .ok out) :
    ∃ size, raw.decompressLen (s.take (s.length - 4)) = .ok size ∧ size ≤ lim := by
  revert h
  fun_cases snappyDecompress lim raw s <;> intro h <;> cases h
  next size hq _ hs _ _ => exact ⟨size, hq, (safeLen_eq_ok.mp hs).2⟩

/-- **output cap** of the streaming decoders, for every limit: an output within the limit is
returned whole, anything larger is an error, and what is returned never exceeds the limit -/
theorem capped_read (lim : Nat) (stream : Bytes) :
    (stream.length ≤ lim → cappedRead lim stream = .ok stream) ∧
    (lim < stream.length → cappedRead lim stream = .error .allocLimit) ∧
    (∀ out, cappedRead lim stream = .ok out → out.length ≤ lim) := by
  unfold cappedRead
  dsimp only
  refine ⟨fun h => ?_, fun h => ?_, fun out h => ?_⟩
  · rw [if_neg (by rw [List.length_take]; omega), List.take_of_length_le (by omega)]
  · rw [if_pos (by rw [List.length_take]; omega)]
  · split at h
    · cases h
    · cases h; omega

/-- CRC-32 check value of the standard test vector "123456789" -/
example : crc32 [0x31, 0x32, 0x33, 0x34, 0x35, 0x36, 0x37, 0x38, 0x39] = 0xCBF43926 := by decide +kernel

end Avro.C15
