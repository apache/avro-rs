import AvroModel
/-!
# C20 — multi-schema parsing

`parseListWith` takes the hash order of the pending inputs as an explicit argument.  Proved: two
inputs with one full name are rejected up front whatever the order; a successful result has exactly
one schema per input, in input order, each the one filed under that input's name.  NOT proved,
because false of the code: that the result is the same for every hash order - `order_dependent_*`
are kernel-checked witnesses (the open findings); for the generated input sets the driver enumerates
ALL hash orders of the model at run time and checks that every outcome the crate produced is one of
them.
-/
namespace Avro.C20

theorem inputNames_ok (texts : List Json) (seen : List PName) (named : List (PName × Json))
    (h : inputNames texts seen = some named) :
    (named.map Prod.fst).Nodup ∧ (∀ n ∈ named.map Prod.fst, n ∉ seen) ∧ named.map Prod.snd = texts := by
  fun_induction inputNames texts seen generalizing named <;> try cases h
  next => exact ⟨.nil, nofun, rfl⟩
  next n _ hc ih =>
    obtain ⟨named', hr, rfl⟩ := Option.map_eq_some_iff.mp h
    obtain ⟨h1, h2, h3⟩ := ih _ hr
    exact ⟨List.nodup_cons.mpr ⟨fun hm => h2 n hm (.head _), h1⟩,
      List.forall_mem_cons.mpr ⟨by simpa only [List.contains_iff_mem] using hc, fun m hm hs => h2 m hm (.tail _ hs)⟩,
      congrArg (_ :: ·) h3⟩

theorem tblGet_remove {α : Type} (t : List (PName × α)) {n m : PName} (h : m ≠ n) :
    tblGet (tblRemove t n) m = tblGet t m := by
  unfold tblGet tblRemove
  rw [List.find?_filter]
  congr 2
  funext kv
  by_cases hm : kv.1 = m <;> simp [hm, h]

/-- what is handed out for each name is what the table holds under it -/
theorem collect_ok (names : List PName) (hnd : names.Nodup) (parsed : List (PName × PSchema)) (out : List PSchema)
    (h : collectInOrder names parsed = some out) : names.map (tblGet parsed) = out.map some := by
  fun_induction collectInOrder names parsed generalizing out <;> try cases h
  next => rfl
  next n rest parsed s hs ih =>
    obtain ⟨out', hr, rfl⟩ := Option.map_eq_some_iff.mp h
    obtain ⟨hn, hrest⟩ := List.nodup_cons.mp hnd
    rw [List.map_cons, hs, List.map_cons, ← ih hrest _ hr]
    exact congrArg _ (List.map_congr_left fun m hm => (tblGet_remove parsed (ne_of_mem_of_not_mem hm hn)).symm)

/-- a successful result has exactly one schema per input, handed out in input order: the schema the parser filed under
that input's name -/
theorem schemas_in_input_order (dflt : DfltFn) (fuel : Nat) (texts : List Json)
    (order : List (PName × Json) → List (PName × Json)) (out : List PSchema)
    (h : parseListWith dflt fuel texts order = some out) :
    ∃ named st, inputNames texts [] = some named ∧ named.map Prod.snd = texts ∧
      parseInputs dflt fuel (named.length + 1) { inputs := order named } = some st ∧
      (named.map Prod.fst).map (tblGet st.parsed) = out.map some := by
  revert h
  fun_cases parseListWith dflt fuel texts order <;> intro h <;> try cases h
  next named hn st hst =>
    have hin := inputNames_ok texts [] named hn
    exact ⟨named, st, hn, hin.2.2, hst, collect_ok _ hin.1 _ _ h⟩

/-- two inputs with the same full name are rejected before anything is parsed, in every order -/
theorem duplicate_input_names_rejected (dflt : DfltFn) (fuel : Nat) (texts : List Json)
    (order : List (PName × Json) → List (PName × Json)) (out : List PSchema)
    (h : parseListWith dflt fuel texts order = some out) :
    ∃ named, inputNames texts [] = some named ∧ (named.map Prod.fst).Nodup := by
  obtain ⟨named, _, hn, -⟩ := schemas_in_input_order dflt fuel texts order out h
  exact ⟨named, hn, (inputNames_ok texts [] named hn).1⟩

/-- a successful result has exactly one schema per input (handed out in input order) -/
theorem one_schema_per_input (dflt : DfltFn) (fuel : Nat) (texts : List Json)
    (order : List (PName × Json) → List (PName × Json)) (out : List PSchema)
    (h : parseListWith dflt fuel texts order = some out) : out.length = texts.length := by
  obtain ⟨named, st, -, ht, -, hout⟩ := schemas_in_input_order dflt fuel texts order out h
  simpa [← ht] using (congrArg List.length hout).symm

/-! ### witnesses: the result depends on the hash order -/

def jstr (s : Bytes) : Json := .str s

/-- input `Host` defines `Nested` inline, input `Guest` refers to it -/
def host : Json := .obj [(b!"fields", .arr [.obj [(b!"name", jstr b!"n"),
    (b!"type", .obj [(b!"name", jstr b!"Nested"), (b!"size", .int 3), (b!"type", jstr b!"fixed")])]]),
  (b!"name", jstr b!"Host"), (b!"type", jstr b!"record")]
def guest : Json := .obj [(b!"fields", .arr [.obj [(b!"name", jstr b!"n"), (b!"type", jstr b!"Nested")]]),
  (b!"name", jstr b!"Guest"), (b!"type", jstr b!"record")]

/-- a closed set (every reference is defined within it) parses when `Host` comes first in the hash
order and FAILS when `Guest` does -/
theorem order_dependent_success :
    (parseListWith (fun _ _ _ => true) 20 [host, guest] id).isSome = true ∧
    (parseListWith (fun _ _ _ => true) 20 [host, guest] List.reverse).isSome = false := by
  constructor <;> rfl

/-- input `B` is a fixed of size 2; input `A` defines, nested, another `B` of size 1 -/
def inA : Json := .obj [(b!"fields", .arr [.obj [(b!"name", jstr b!"f"),
    (b!"type", .obj [(b!"name", jstr b!"B"), (b!"size", .int 1), (b!"type", jstr b!"fixed")])]]),
  (b!"name", jstr b!"A"), (b!"type", jstr b!"record")]
def inB : Json := .obj [(b!"name", jstr b!"B"), (b!"size", .int 2), (b!"type", jstr b!"fixed")]

def sizeOfSecond (r : Option (List PSchema)) : Option Nat :=
  match r with
  | some [_, .fixed f] => some f.size
  | _ => none

/-- both orders succeed, and the schema returned for input `B` has size 2 in one and size 1 in the
other: a duplicate definition is neither rejected nor resolved the same way -/
theorem order_dependent_definition :
    sizeOfSecond (parseListWith (fun _ _ _ => true) 20 [inA, inB] id) = some 2 ∧
    sizeOfSecond (parseListWith (fun _ _ _ => true) 20 [inA, inB] List.reverse) = some 1 := by
  constructor <;> rfl

end Avro.C20
