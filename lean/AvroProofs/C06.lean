import AvroModel
import AvroProofs.Lemmas.SpecEncode
import AvroProofs.Lemmas.DecodeConforms
import AvroProofs.Lemmas.Prim
/-!
# C06 — a successfully decoded value conforms to the schema

The facts about the *model's* versions of third-party primitives (num-bigint signed bytes, uuid text
forms) that `decode_conforms_aux` needs are proved in `AvroProofs/Lemmas/Prim.lean` (`primFacts`).

The second half of the property - a truncated datum is reported as an error rather than completed
with invented values - is `truncated_datum_is_error`: it follows from the decoder being *framed*
(`decode_framed`: a successful decode consumed a prefix of its input and does not depend on what
follows it), proved by induction through every arm and loop of the decoder.
-/
namespace Avro.C06

/-- Whenever the model decoder succeeds on **any** byte string, the value it returns conforms to
the schema (canonical representation, all lengths within the limit).  The three bounds on the configuration: see
`decodeStep_conforms` (Lemmas/DecodeConforms.lean). -/
theorem decode_conforms (cfg : Cfg) (env : Names)
    (h1 : 1 ≤ cfg.szValue) (h2 : 1 ≤ cfg.szEntry) (hl : 36 ≤ cfg.lim) (henv : EnvOk env)
    (fuel : Nat) (s : Schema) (hs : wfS s = true) (bs : Bytes) (v : Value) (rest : Bytes)
    (h : decode cfg env fuel s bs = .ok (v, rest)) : Conforms cfg env s v :=
  decode_conforms_aux primFacts h1 h2 hl henv fuel s hs bs v rest h

/-- …hence it re-encodes, and the re-encoding decodes to the same value (with C01). -/
theorem decode_reencode (cfg : Cfg) (env : Names)
    (h1 : 1 ≤ cfg.szValue) (h2 : 1 ≤ cfg.szEntry) (hl : 36 ≤ cfg.lim) (hl63 : cfg.lim < 2^63)
    (henv : EnvOk env) (fuel : Nat) (s : Schema) (hs : wfS s = true) (bs : Bytes) (v : Value)
    (rest : Bytes) (h : decode cfg env fuel s bs = .ok (v, rest)) :
    ∃ bs' n, ∀ fuel', n ≤ fuel' →
      encode env fuel' s v = .ok bs' ∧ ∀ r, decode cfg env fuel' s (bs' ++ r) = .ok (v, r) :=
  conforms_rt hl63 (decode_conforms cfg env h1 h2 hl henv fuel s hs bs v rest h)

/-- **the decoder is framed**: whenever it succeeds it consumed a prefix `c` of its input, returns
the rest untouched, and returns the same value for `c` followed by anything else -/
theorem decode_framed (cfg : Cfg) (env : Names) (fuel : Nat) (s : Schema) (bs : Bytes) (v : Value) (rest : Bytes)
    (h : decode cfg env fuel s bs = .ok (v, rest)) :
    ∃ c, bs = c ++ rest ∧ ∀ q, decode cfg env fuel s (c ++ q) = .ok (v, q) :=
  framed_decode cfg env fuel s bs v rest h

/-- **a truncated datum is an error**: if a byte string is exactly one datum (decoding it leaves
nothing), then decoding any strict prefix of it fails - for every schema, every byte string (also a
non-canonical one: several blocks, negative counts), every cut point.  No value is invented. -/
theorem truncated_datum_is_error (cfg : Cfg) (env : Names) (fuel : Nat) (s : Schema) (bs : Bytes) (v : Value)
    (h : decode cfg env fuel s bs = .ok (v, [])) (p q : Bytes) (hp : bs = p ++ q) (hq : q ≠ []) :
    ∃ e, decode cfg env fuel s p = .error e :=
  (framed_decode cfg env fuel s).prefix_error h hp hq

/-- …in particular every strict prefix of what the encoder writes for a conforming value -/
theorem truncated_encoding_is_error (cfg : Cfg) (env : Names) (hl : cfg.lim < 2^63) (s : Schema) (v : Value)
    (hc : Conforms cfg env s v) :
    ∃ bs n, ∀ fuel, n ≤ fuel → encode env fuel s v = .ok bs ∧
      ∀ p q, bs = p ++ q → q ≠ [] → ∃ e, decode cfg env fuel s p = .error e := by
  obtain ⟨bs, H⟩ := conforms_rt hl hc
  exact ⟨bs, Ev.mono H fun fuel ⟨he, hd⟩ => ⟨he, fun p q hp hq =>
    (framed_decode cfg env fuel s).prefix_error (by simpa using hd []) hp hq⟩⟩

/-- the encodings of a schema's values are prefix-free: a datum that is a prefix of a datum is that datum -/
theorem prefix_free (cfg : Cfg) (env : Names) (fuel : Nat) (s : Schema) (a b : Bytes) (va vb : Value)
    (ha : decode cfg env fuel s a = .ok (va, [])) (hb : decode cfg env fuel s b = .ok (vb, []))
    (q : Bytes) (hab : b = a ++ q) : q = [] ∧ va = vb :=
  (framed_decode cfg env fuel s).prefix_free ha (hab ▸ hb)

/-! non-vacuity: the decoder does succeed on non-canonical input (a negative block count with a
byte size, a second block), and the hypotheses are satisfiable -/
example : (match decode { lim := 1000 } [] 5 (.array .long) [3, 4, 2, 3, 2, 5, 0, 0xff] with
    | .ok (.array [.long 1, .long (-2), .long (-3)], [0xff]) => true
    | _ => false) = true := by decide
example : EnvOk [] := by intro n s h; simp [Names.find?] at h
example : wfS (.array .long) = true := by decide

end Avro.C06
